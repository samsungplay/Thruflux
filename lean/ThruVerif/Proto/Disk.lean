/-!
The disk model as it was sketched in the design round (DESIGN.md, appendix). `Model/Disk.lean` holds the same definitions,
and the theorems about them are in `Props/C05.lean`.
-/
namespace TV.Disk

inductive Chunk | absent | torn | good
  deriving DecidableEq, Repr

abbrev BM := Nat → Bool

inductive FlushPc
  | idle
  | snapped (s : BM)      -- holds the sidecar mutex, has marshalled s
  | wroteTmp (s : BM)     -- temp file written completely
  | renamed               -- rename done, still holding the mutex

structure State where
  data  : Nat → Chunk
  mem   : BM                 -- in-memory bitmap
  tmp   : Option BM          -- <path>.tmp when completely written
  tmpTorn : Bool             -- a partially written temp file exists
  disk  : Option BM          -- <path>
  fl    : FlushPc
  wr    : Nat → Nat          -- number of writers currently inside WriteAt for chunk i
  pend  : Nat → Nat          -- writers whose WriteAt returned but that have not yet marked

def upd {α} (f : Nat → α) (i : Nat) (v : α) : Nat → α := fun j => if j = i then v else f j

inductive Step
  | beginWrite (i : Nat)     -- a data reader enters WriteAt for chunk i (payload = source, CRC checked)
  | endWrite (i : Nat)       -- WriteAt returned
  | mark (i : Nat)           -- markChunkComplete; needs the sidecar mutex
  | flushBegin               -- Flush: lock, marshal
  | flushTmpPartial          -- part of the temp file hit the disk
  | flushTmpDone
  | flushRename
  | flushEnd
  | crash                    -- SIGKILL; then restart loads the sidecar
  | restartLoad

def lockFree (s : State) : Prop := s.fl = .idle

def step (s : State) : Step → Option State
  | .beginWrite i =>
    some { s with wr := upd s.wr i (s.wr i + 1),
                  data := if s.data i = .good then s.data else upd s.data i .torn }
  | .endWrite i =>
    if s.wr i = 0 then none else
    some { s with wr := upd s.wr i (s.wr i - 1), pend := upd s.pend i (s.pend i + 1),
                  data := upd s.data i .good }
  | .mark i =>
    match s.fl with
    | .idle => if s.pend i = 0 then none else
        some { s with pend := upd s.pend i (s.pend i - 1), mem := upd s.mem i true }
    | _ => none
  | .flushBegin =>
    match s.fl with
    | .idle => some { s with fl := .snapped s.mem }
    | _ => none
  | .flushTmpPartial =>
    match s.fl with
    | .snapped _ => some { s with tmp := none, tmpTorn := true }
    | _ => none
  | .flushTmpDone =>
    match s.fl with
    | .snapped b => some { s with tmp := some b, tmpTorn := false, fl := .wroteTmp b }
    | _ => none
  | .flushRename =>
    match s.fl with
    | .wroteTmp b => some { s with disk := some b, tmp := none, fl := .renamed }
    | _ => none
  | .flushEnd =>
    match s.fl with
    | .renamed => some { s with fl := .idle }
    | _ => none
  | .crash =>
    some { s with mem := fun _ => false, fl := .idle, wr := fun _ => 0, pend := fun _ => 0 }
  | .restartLoad =>
    match s.disk with
    | some b => some { s with mem := b }
    | none => some s

def init : State :=
  { data := fun _ => .absent, mem := fun _ => false, tmp := none, tmpTorn := false, disk := none,
    fl := .idle, wr := fun _ => 0, pend := fun _ => 0 }

/-- Every state reachable from `init` by any interleaving of writers, flusher, crashes and restarts. -/
inductive Reachable : State → Prop
  | init : Reachable init
  | step {s s' a} : Reachable s → step s a = some s' → Reachable s'

end TV.Disk
