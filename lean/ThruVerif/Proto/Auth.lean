/-! Design-round sketch of the symbolic (Dolev-Yao) model of the transport authentication (DESIGN.md, appendix), in namespace `TV.Auth`;
`Model/AuthSym` + the `TV.AuthSym` part of `Props/C08` are the same text under the namespace the byte-level model left free. Continued in `Proto/Auth2`. -/
namespace TV.Auth

inductive Tm
  | code (c : Nat) | ekm (e : Nat) | nonce (n : Nat) | byte (b : Nat)
  | hmac (k t : Tm) | pair (a b : Tm)
  deriving DecidableEq, Repr

open Tm

/-- components reachable by projections only (the attacker cannot look inside an hmac) -/
inductive Parts (K : Tm → Prop) : Tm → Prop
  | base {t} : K t → Parts K t
  | fst {a b} : Parts K (pair a b) → Parts K a
  | snd {a b} : Parts K (pair a b) → Parts K b

/-- atoms the attacker may invent: bytes, its own nonces (odd ids), codes other than `secret`, any ekm in `E` -/
structure World where
  secret : Nat            -- the honest join code
  E : Nat → Prop          -- TLS sessions the attacker terminates (it knows their exporter output)

inductive Der (W : World) (K : Tm → Prop) : Tm → Prop
  | parts {t} : Parts K t → Der W K t
  | byte (b) : Der W K (byte b)
  | nonce (n) : Der W K (nonce n)
  | code {c} : c ≠ W.secret → Der W K (code c)
  | ekm {e} : W.E e → Der W K (ekm e)
  | pair {a b} : Der W K a → Der W K b → Der W K (pair a b)
  | hmac {k t} : Der W K k → Der W K t → Der W K (hmac k t)

/-- Honest traffic never exposes the code or a session key as a projectable component. -/
def Clean (W : World) (K : Tm → Prop) : Prop :=
  (¬ Parts K (code W.secret)) ∧ (∀ e, ¬ Parts K (hmac (code W.secret) (ekm e)))

theorem secret_underivable {W K} (hK : Clean W K) : ¬ Der W K (code W.secret) := by
  intro h
  cases h with
  | parts hp => exact hK.1 hp
  | code hne => exact hne rfl

theorem key_underivable {W K} (hK : Clean W K) (e : Nat) : ¬ Der W K (hmac (code W.secret) (ekm e)) := by
  intro h
  cases h with
  | parts hp => exact hK.2 e hp
  | hmac hk _ => exact secret_underivable hK hk

/-- A MAC under an honest session key that the attacker can present was lifted from observed traffic. -/
theorem mac_from_traffic {W K} (hK : Clean W K) (e : Nat) (body : Tm)
    (h : Der W K (hmac (hmac (code W.secret) (ekm e)) body)) :
    Parts K (hmac (hmac (code W.secret) (ekm e)) body) := by
  cases h with
  | parts hp => exact hp
  | hmac hk _ => exact absurd hk (key_underivable hK e)

end TV.Auth
