import ThruVerif.Proto.SendFile
/-! Continuation of `Proto/SendFile`: the lemmas of the design-round machine (each chunk is handed out once, in increasing order). -/
namespace TV.SendFile

-- the cases of `scan`: no fuel; `next < total`, skipped (the scan goes on); `next < total`, found; `next ≥ total`
theorem scan_some {p total fuel next i n} (h : scan p total fuel next = (some i, n)) :
    next ≤ i ∧ n = i + 1 ∧ i < total ∧ skip p i = false := by
  fun_induction scan p total fuel next with
  | case1 => cases h
  | case2 fuel next hlt hs ih =>
    obtain ⟨hle, hrest⟩ := ih h
    exact ⟨Nat.le_of_succ_le hle, hrest⟩
  | case3 fuel next hlt hs =>
    cases h
    exact ⟨Nat.le_refl _, rfl, hlt, eq_false_of_ne_true hs⟩
  | case4 => cases h

theorem scan_none {p total fuel next n} (h : scan p total fuel next = (none, n)) : next ≤ n := by
  fun_induction scan p total fuel next with
  | case1 => cases h; exact Nat.le_refl _
  | case2 fuel next hlt hs ih => exact Nat.le_of_succ_le (ih h)
  | case3 => cases h
  | case4 => cases h; exact Nat.le_refl _

/-- the branches of `take` in order: re-send, schedule done, chunk `i` found, scan ran out at `n` -/
theorem take_next (s : St) :
    s.next ≤ (take s).1.next ∧ (s.resendPending = false → ∀ i, (take s).2 = some i →
      s.next ≤ i ∧ (take s).1.next = i + 1 ∧ i < s.total ∧ skip s.plan i = false) := by
  fun_cases take s
  case case1 hr => exact ⟨Nat.le_refl _, fun hf => by rw [hr] at hf; cases hf⟩
  case case2 => exact ⟨Nat.le_refl _, fun _ _ => nofun⟩
  case case3 i n h =>
    obtain ⟨h1, rfl, h3, h4⟩ := scan_some h
    exact ⟨Nat.le_succ_of_le h1, fun _ _ hj => by cases hj; exact ⟨h1, rfl, h3, h4⟩⟩
  case case4 n h => exact ⟨scan_none h, fun _ _ => nofun⟩

/-- indices handed out by ordinary (non-resend) takes along a run -/
def normalTakes (s : St) : List Op → List Nat
  | [] => []
  | o :: os =>
    let s' := (step s o).1
    match o with
    | .take =>
      if s.resendPending then normalTakes s' os
      else match (take s).2 with
        | some i => i :: normalTakes s' os
        | none => normalTakes s' os
    | _ => normalTakes s' os

theorem next_mono (s : St) (o : Op) : s.next ≤ (step s o).1.next := by
  cases o with
  | take => exact (take_next s).1
  | finish => simp only [step, finish]; (repeat' split) <;> exact Nat.le_refl _
  | tryEnd => simp only [step, tryEnd]; (repeat' split) <;> exact Nat.le_refl _
  | verdict m c => simp only [step, verdict]; split <;> exact Nat.le_refl _

theorem take_some_normal {s : St} {i : Nat} (hr : s.resendPending = false) (h : (take s).2 = some i) :
    s.next ≤ i ∧ (take s).1.next = i + 1 ∧ i < s.total ∧ skip s.plan i = false :=
  (take_next s).2 hr i h

theorem normalTakes_cons (s : St) (o : Op) (os : List Op) :
    normalTakes s (o :: os) = normalTakes (step s o).1 os ∨
    ∃ i, s.next ≤ i ∧ i < (step s o).1.next ∧ normalTakes s (o :: os) = i :: normalTakes (step s o).1 os := by
  cases o with
  | take =>
    simp only [normalTakes]
    split
    · exact Or.inl rfl
    · rename_i hr
      split
      · rename_i i hi
        obtain ⟨h1, h2, _⟩ := take_some_normal (eq_false_of_ne_true hr) hi
        exact Or.inr ⟨i, h1, Nat.lt_of_lt_of_eq (Nat.lt_succ_self i) h2.symm, rfl⟩
      · exact Or.inl rfl
  | _ => exact Or.inl rfl

/-- C17 core: ordinary takes hand out strictly increasing indices, all ≥ the cursor —
    for every operation sequence whatsoever (any interleaving of any number of workers, plan and verdict arrival). -/
theorem normalTakes_sorted (s : St) (ops : List Op) :
    (∀ i ∈ normalTakes s ops, s.next ≤ i) ∧ (normalTakes s ops).Pairwise (· < ·) := by
  induction ops generalizing s with
  | nil => exact ⟨nofun, .nil⟩
  | cons o os ih =>
    obtain ⟨ihr, ihp⟩ := ih (step s o).1
    rcases normalTakes_cons s o os with e | ⟨i, hlo, hcur, e⟩ <;> rw [e]
    · exact ⟨fun j hj => Nat.le_trans (next_mono s o) (ihr j hj), ihp⟩
    · -- `i` lies below the new cursor (`hcur`), every later index at or above it (`ihr`)
      have hlt : ∀ j ∈ normalTakes (step s o).1 os, i < j := fun j hj => Nat.lt_of_lt_of_le hcur (ihr j hj)
      refine ⟨fun j hj => ?bounds, List.pairwise_cons.mpr ⟨hlt, ihp⟩⟩
      rcases List.mem_cons.mp hj with rfl | hj
      · exact hlo
      · exact Nat.le_trans hlo (Nat.le_of_lt (hlt j hj))

end TV.SendFile
