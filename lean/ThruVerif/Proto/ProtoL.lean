/-! Design-round sketch of the one-file liveness abstraction with the receiver accepting all announced streams first (before fix ffcb56f;
DESIGN.md, appendix): the hang witnesses of probe P1. The lazily accepting version is `Model/ProtoL` (namespace `TV.ProtoLFix`). -/
namespace TV.ProtoL

/-- Liveness abstraction, one connection, one file: payloads and indices erased to counters. -/
structure St where
  n : Nat                    -- data streams announced in DataStreams{n}
  toSend : Nat               -- chunks not yet dispatched to a worker
  buffered : List Nat        -- frames written to stream w and not yet read (length n)
  visible : Nat              -- streams 0..visible-1 can be accepted by the peer (QUIC: first frame on stream j reveals all ≤ j)
  accepted : Nat             -- data streams the receiver has accepted so far
  remaining : Nat            -- chunks the receiver still misses
  endSent : Bool
  endRecv : Bool
  doneSent : Bool
  doneRecv : Bool
  deriving DecidableEq, Repr

inductive Step
  | dispatch (w : Nat)       -- worker w takes a chunk and writes its frame on stream w
  | sendEnd                  -- FileEnd on the control stream
  | accept                   -- receiver accepts the next data stream (blocks until one is visible)
  | readFrame (w : Nat)      -- reader of stream w consumes a frame; readers start only after all n are accepted
  | recvEnd                  -- main loop handles FileEnd; control records are handled only after all n are accepted
  | recvDone                 -- sender receives FileDone; workers then exit and close (FIN reveals every stream)
  deriving DecidableEq, Repr

def fin (s : St) : St := if s.remaining = 0 then { s with doneSent := true } else s

def step (s : St) : Step → Option St
  | .dispatch w =>
    if s.toSend > 0 ∧ w < s.n then
      some { s with toSend := s.toSend - 1, buffered := s.buffered.set w (s.buffered.getD w 0 + 1),
                    visible := max s.visible (w + 1) }
    else none
  | .sendEnd => if s.toSend = 0 ∧ !s.endSent then some { s with endSent := true } else none
  | .accept => if s.accepted < s.n ∧ s.accepted < s.visible then some { s with accepted := s.accepted + 1 } else none
  | .readFrame w =>
    if s.accepted = s.n ∧ s.buffered.getD w 0 > 0 ∧ s.remaining > 0 then
      some (fin { s with buffered := s.buffered.set w (s.buffered.getD w 0 - 1), remaining := s.remaining - 1 })
    else none
  | .recvEnd => if s.accepted = s.n ∧ s.endSent ∧ !s.endRecv then some (fin { s with endRecv := true }) else none
  | .recvDone => if s.doneSent ∧ !s.doneRecv then some { s with doneRecv := true, visible := s.n } else none

def init (n chunks : Nat) : St :=
  { n, toSend := chunks, buffered := List.replicate n 0, visible := 0, accepted := 0, remaining := chunks,
    endSent := false, endRecv := false, doneSent := false, doneRecv := false }

def final (s : St) : Bool := s.doneRecv && s.endRecv

def allSteps (s : St) : List Step :=
  [.sendEnd, .accept, .recvEnd, .recvDone] ++ (List.range s.n).map .dispatch ++ (List.range s.n).map .readFrame

def stuck (s : St) : Bool := !final s && (allSteps s).all fun a => (step s a).isNone

def run (s : St) : List Step → Option St
  | [] => some s
  | a :: as => match step s a with | some s' => run s' as | none => none

/-- P1 as a model run: one chunk, two streams, worker 0 takes the chunk. -/
theorem visibility_deadlock :
    (run (init 2 1) [.dispatch 0, .sendEnd, .accept]).map stuck = some true := by decide

/-- the same configuration completes when worker 1 happens to take the chunk -/
theorem visibility_lucky :
    (run (init 2 1) [.dispatch 1, .sendEnd, .accept, .accept, .readFrame 1, .recvEnd, .recvDone]).map final = some true := by
  decide

/-- a single empty file on one stream: nothing is ever written on the data stream -/
theorem empty_file_deadlock : (run (init 1 0) [.sendEnd]).map stuck = some true := by decide

end TV.ProtoL
