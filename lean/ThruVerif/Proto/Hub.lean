/-! Design-round sketch of the signaling hub as it was before fixes 895648d / f75660c (DESIGN.md, appendix), with session maps that have
identities: `Broadcast` sends after unlocking, `remove` garbage-collects the map it captured. The two witnesses are the runs of probes
P10 and the stale-map GC. The repaired hub is `Model/Hub`. -/
namespace TV.Hub

/-- one connection's routing entry -/
structure PC where
  conn : Nat
  peer : Nat
  deriving DecidableEq, Repr

/-- a session's peer map carries an identity so that a re-created map is distinguishable from a captured one -/
structure SessMap where
  mapId : Nat
  conns : List PC
  deriving DecidableEq, Repr

inductive Thr
  | bcastStart (sid : Nat)                      -- Broadcast: about to take RLock and copy
  | bcastSend (targets : List Nat)              -- Broadcast: lock released, sending to the copied list
  | removeStart (sid conn peer : Nat)           -- remove phase 1 (unlink under Lock)
  | removeClose (sid conn mapId : Nat)          -- phase 2 (closeSend outside the lock)
  | removeGC (sid mapId : Nat)                  -- phase 3 (delete the session if the captured map is empty)
  | addStart (sid conn peer : Nat)
  | done
  deriving DecidableEq, Repr

structure St where
  sessions : List (Nat × SessMap)               -- sid ↦ map
  maps : List (Nat × List PC)                   -- heap of map objects by identity (captured maps stay alive)
  closed : List Nat                             -- connections whose send channel is closed
  queued : List (Nat × Nat)                     -- (conn, count) messages queued
  nextMap : Nat
  threads : List Thr
  panicked : Bool
  deriving DecidableEq, Repr

def lookupSess (s : St) (sid : Nat) : Option SessMap := (s.sessions.find? (·.1 == sid)).map (·.2)
def mapConns (s : St) (mid : Nat) : List PC := ((s.maps.find? (·.1 == mid)).map (·.2)).getD []
def setMap (s : St) (mid : Nat) (cs : List PC) : St :=
  { s with maps := (mid, cs) :: s.maps.filter (·.1 != mid) }
def setThread (s : St) (t : Nat) (th : Thr) : St := { s with threads := s.threads.set t th }

/-- one atomic action of thread `t` -/
def step (s : St) (t : Nat) : Option St :=
  match s.threads.getD t .done with
  | .done => none
  | .bcastStart sid =>
    match lookupSess s sid with
    | none => some (setThread s t .done)
    | some m => some (setThread s t (.bcastSend ((mapConns s m.mapId).map (·.conn))))
  | .bcastSend [] => some (setThread s t .done)
  | .bcastSend (c :: cs) =>
    if s.closed.contains c then some { (setThread s t .done) with panicked := true }   -- send on closed channel
    else some (setThread s t (.bcastSend cs))
  | .removeStart sid conn _peer =>
    match lookupSess s sid with
    | none => some (setThread s t .done)
    | some m =>
      let cs := mapConns s m.mapId
      if cs.any (·.conn == conn) then
        some (setThread (setMap s m.mapId (cs.filter (·.conn != conn))) t (.removeClose sid conn m.mapId))
      else some (setThread s t .done)
  | .removeClose sid conn mid => some (setThread { s with closed := conn :: s.closed } t (.removeGC sid mid))
  | .removeGC sid mid =>
    if (mapConns s mid).isEmpty then
      some (setThread { s with sessions := s.sessions.filter (·.1 != sid) } t .done)     -- deletes whatever map is registered now
    else some (setThread s t .done)
  | .addStart sid conn peer =>
    match lookupSess s sid with
    | some m => some (setThread (setMap s m.mapId (⟨conn, peer⟩ :: mapConns s m.mapId)) t .done)
    | none =>
      let mid := s.nextMap
      some (setThread { (setMap s mid [⟨conn, peer⟩]) with
              sessions := (sid, ⟨mid, []⟩) :: s.sessions, nextMap := mid + 1 } t .done)

def run (s : St) : List Nat → Option St
  | [] => some s
  | t :: ts => match step s t with | some s' => run s' ts | none => none

def twoPeers (threads : List Thr) : St :=
  { sessions := [(7, ⟨0, []⟩)], maps := [(0, [⟨1, 1⟩, ⟨2, 2⟩])], closed := [], queued := [], nextMap := 1,
    threads, panicked := false }

/-- P10 as a model run: Broadcast copies the list, remove unlinks and closes, Broadcast sends. -/
theorem send_on_closed :
    (run (twoPeers [.bcastStart 7, .removeStart 7 1 1]) [0, 1, 1, 0]).map (·.panicked) = some true := by decide

/-- stale-map GC: A unlinks (map 0 empty), B joins and leaves (session entry deleted), C joins (new map 1),
    A's phase 3 still sees its captured map 0 empty and deletes the entry that now holds C. -/
theorem stale_gc_drops_live_peer :
    (run { sessions := [(7, ⟨0, []⟩)], maps := [(0, [⟨1, 1⟩])], closed := [], queued := [], nextMap := 1,
           threads := [.removeStart 7 1 1, .addStart 7 2 2, .removeStart 7 2 2, .addStart 7 3 3], panicked := false }
         [0, 0, 1, 2, 2, 2, 3, 0]).map (fun s => (lookupSess s 7).isSome) = some false := by decide

end TV.Hub
