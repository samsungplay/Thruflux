/-! Design-round sketch of the per-file transfer system (DESIGN.md, appendix): an earlier, smaller version of `Model/FileSys` (the sender
is not modelled beyond `send`, FileEnd carries no frame count, no verification of a resumed chunk) with its invariant and the fidelity
theorem. The theorems about the present model are in `Props/C01`. -/
namespace TV.FileSys

structure Frame where
  idx : Nat
  pay : Nat
  crcOk : Bool
  deriving DecidableEq, Repr

/-- Per-file projection of the transfer, resume (sidecar) mode. Payload ids: `src[i]`; 0 = nothing/garbage. -/
structure St where
  src : List Nat
  flight : List Frame
  bits : List Bool          -- sidecar bitmap, length = src.length
  remaining : Nat
  disk : List Nat           -- length = src.length
  endReceived : Bool
  fin : Option Bool
  deriving DecidableEq, Repr

inductive Step
  | send (i : Nat)          -- honest sender emits chunk i (any i < total, any number of times)
  | corrupt (k : Nat)       -- network damages the k-th frame in flight (CRC then fails)
  | deliver (k : Nat)       -- a data reader processes the k-th frame in flight
  | endArrives
  deriving DecidableEq, Repr

def countFalse (l : List Bool) : Nat := (l.filter (· == false)).length

def finIfZero (s : St) : St := if s.remaining = 0 then { s with fin := some true } else s

def step (s : St) : Step → Option St
  | .send i =>
    if h : i < s.src.length then some { s with flight := s.flight ++ [⟨i, s.src[i], true⟩] } else none
  | .corrupt k =>
    if k < s.flight.length then
      some { s with flight := s.flight.set k { (s.flight.getD k ⟨0,0,false⟩) with pay := 0, crcOk := false } }
    else none
  | .deliver k =>
    if k < s.flight.length then
      let f := s.flight.getD k ⟨0,0,false⟩
      let s := { s with flight := s.flight.eraseIdx k }
      if s.fin.isSome then some s                                   -- late frame: reader parks, no effect
      else if f.idx ≥ s.src.length then some { s with fin := some false }
      else if !f.crcOk then some { s with fin := some false }
      else
        let s := { s with disk := s.disk.set f.idx f.pay }
        if s.bits.getD f.idx false then some (finIfZero s)
        else some (finIfZero { s with bits := s.bits.set f.idx true, remaining := s.remaining - 1 })
    else none
  | .endArrives =>
    if s.fin.isSome then some s else some (finIfZero { s with endReceived := true })

structure Inv (s : St) : Prop where
  lenB : s.bits.length = s.src.length
  lenD : s.disk.length = s.src.length
  flight : ∀ f ∈ s.flight, f.crcOk = true → f.idx < s.src.length ∧ f.pay = s.src.getD f.idx 0
  sound : ∀ i, i < s.src.length → s.bits.getD i false = true → s.disk.getD i 0 = s.src.getD i 0
  count : s.remaining = countFalse s.bits
  fin : s.fin = some true → s.remaining = 0

theorem countFalse_zero_all (l : List Bool) (h : countFalse l = 0) : ∀ i, i < l.length → l.getD i false = true := by
  intro i hi
  have := List.filter_eq_nil_iff.mp (List.eq_nil_of_length_eq_zero h) l[i] (List.getElem_mem hi)
  simpa [hi] using this

/-- The fidelity consequence of the invariant: a file finalised ok is byte-identical to the source. -/
theorem fidelity_of_inv {s : St} (h : Inv s) (hf : s.fin = some true) :
    ∀ i, i < s.src.length → s.disk.getD i 0 = s.src.getD i 0 := by
  intro i hi
  have hz : countFalse s.bits = 0 := by rw [← h.count]; exact h.fin hf
  exact h.sound i hi (countFalse_zero_all _ hz i (by rw [h.lenB]; exact hi))

theorem getD_set {α} (l : List α) (i j : Nat) (v d : α) :
    (l.set i v).getD j d = if i = j ∧ i < l.length then v else l.getD j d := by
  simp only [List.getD_eq_getElem?_getD, List.getElem?_set]
  by_cases hij : i = j
  · subst hij
    by_cases hl : i < l.length <;> simp [hl]
  · simp [hij]

theorem countFalse_set_true (l : List Bool) (i : Nat) (hi : i < l.length) (hb : l.getD i false = false) :
    countFalse (l.set i true) + 1 = countFalse l := by
  have hb' : l[i] = false := by simpa [hi] using hb
  -- `List.countP_set`: setting a `false` entry to `true` takes one out of the count; `h1` says there is one to take out
  have h1 := List.boole_getElem_le_countP (p := (· == false)) hi
  simp only [countFalse, ← List.countP_eq_length_filter, List.countP_set hi]
  rw [hb'] at h1 ⊢
  exact Nat.sub_add_cancel h1

theorem mem_of_mem_eraseIdx {α} {l : List α} {k : Nat} {x : α} (h : x ∈ l.eraseIdx k) : x ∈ l :=
  List.mem_of_mem_eraseIdx h

theorem finIfZero_inv {s : St} (h : Inv s) : Inv (finIfZero s) := by
  unfold finIfZero
  split
  next hz => exact { h with fin := fun _ => hz }
  next => exact h

/-- a frame leaves the wire unwritten: drained after the verdict (`b = s.fin`), or rejected (`b = some false`) -/
theorem drop_inv {s : St} (h : Inv s) (k : Nat) {b : Option Bool} (hb : b = some true → s.fin = some true) :
    Inv { s with flight := s.flight.eraseIdx k, fin := b } :=
  { h with flight := fun f hf => h.flight f (mem_of_mem_eraseIdx hf), fin := fun hn => h.fin (hb hn) }

/-- a CRC-correct frame in flight is written; `bits'`, `rem'` record at most its chunk anew -/
theorem write_inv {s : St} (h : Inv s) (hfn : s.fin ≠ some true) {k : Nat} {f : Frame} (hf : f ∈ s.flight) (hok : f.crcOk = true)
    {bits' : List Bool} {rem' : Nat} (hlen : bits'.length = s.src.length) (hC : rem' = countFalse bits')
    (hb : ∀ i, bits'.getD i false = true → i = f.idx ∨ s.bits.getD i false = true) :
    Inv { s with flight := s.flight.eraseIdx k, disk := s.disk.set f.idx f.pay, bits := bits', remaining := rem' } := by
  obtain ⟨hlt, hpay⟩ := h.flight f hf hok
  refine { h with lenB := hlen, lenD := by simp [h.lenD], count := hC, fin := fun hn => absurd hn hfn,
                  flight := fun g hg => h.flight g (mem_of_mem_eraseIdx hg), sound := fun i hi hbi => ?_ }
  rw [getD_set]
  split
  next hc =>  -- the written index
    rw [← hc.1]; exact hpay
  next hc =>  -- any other marked index was marked before (`hb`)
    exact h.sound i hi ((hb i hbi).resolve_left fun e => hc ⟨e.symm, h.lenD ▸ hlt⟩)

theorem inv_step (s s' : St) (a : Step) (hinv : Inv s) (h : step s a = some s') : Inv s' := by
  cases a with
  | send i =>
    simp only [step] at h
    split at h
    · rename_i hi
      cases h
      refine { hinv with flight := fun f hf hok => ?_ }
      rcases List.mem_append.mp hf with hf | hf
      · exact hinv.flight f hf hok
      · cases List.mem_singleton.mp hf; exact ⟨hi, by simp [hi]⟩
    · cases h
  | corrupt k =>
    simp only [step] at h
    split at h
    · cases h
      refine { hinv with flight := fun f hf hok => ?_ }
      rcases List.mem_or_eq_of_mem_set hf with hf | rfl
      · exact hinv.flight f hf hok
      · cases hok
    · cases h
  | endArrives =>
    simp only [step] at h
    split at h <;> cases h
    · exact hinv
    · -- `{ hinv with }`: no field of `Inv` mentions `endReceived`
      exact finIfZero_inv { hinv with }
  | deliver k =>
    -- (`rw [if_pos _] at h` where `split at h` would do: the latter is several times dearer on these records)
    by_cases hk : k < s.flight.length
    · rw [step, if_pos hk] at h
      have hmem : s.flight.getD k ⟨0, 0, false⟩ ∈ s.flight := by
        rw [List.getD_eq_getElem?_getD, List.getElem?_eq_getElem hk]; exact List.getElem_mem hk
      generalize s.flight.getD k ⟨0, 0, false⟩ = f at h hmem
      dsimp only at h
      by_cases hfin : s.fin.isSome = true
      · rw [if_pos hfin] at h; cases h; exact drop_inv hinv k id
      · have hfn : s.fin ≠ some true := fun e => hfin (by rw [e]; rfl)
        rw [if_neg hfin] at h
        by_cases hidx : f.idx ≥ s.src.length
        · rw [if_pos hidx] at h; cases h; exact drop_inv hinv k nofun
        · rw [if_neg hidx] at h
          cases hok : f.crcOk with
          | false => rw [hok] at h; cases h; exact drop_inv hinv k nofun
          | true =>
            rw [hok] at h
            by_cases hbit : s.bits.getD f.idx false = true
            · -- bit already set: duplicate chunk, counter untouched
              rw [if_pos hbit] at h; cases h
              exact finIfZero_inv (write_inv hinv hfn hmem hok (hlen := hinv.lenB) (hC := hinv.count) (hb := fun _ hbi => .inr hbi))
            · rw [if_neg hbit] at h; cases h
              -- first sight of this chunk: its bit is set and the counter falls by one
              refine finIfZero_inv (write_inv hinv hfn hmem hok (hlen := by simp [hinv.lenB]) (hC := ?count) (hb := fun i hbi => ?marked))
              case count =>
                have hlt : f.idx < s.bits.length := hinv.lenB ▸ (hinv.flight f hmem hok).1
                have hcnt : countFalse (s.bits.set f.idx true) + 1 = countFalse s.bits :=
                  countFalse_set_true s.bits f.idx hlt (eq_false_of_ne_true hbit)
                show s.remaining - 1 = countFalse (s.bits.set f.idx true)
                rw [hinv.count, ← hcnt]
                exact Nat.add_one_sub_one _
              case marked =>
                rw [getD_set] at hbi
                split at hbi
                next hc => exact .inl hc.1.symm
                next => exact .inr hbi
    · rw [step, if_neg hk] at h; cases h

inductive Reachable (s0 : St) : St → Prop
  | init : Reachable s0 s0
  | step {s s' a} : Reachable s0 s → step s a = some s' → Reachable s0 s'

/-- C01/C02 per-file core: from any start state whose sidecar is sound (C05), under any interleaving of sends,
    corruptions and deliveries, a file that the receiver finalises with ok = true is identical to the source. -/
theorem inv_reachable {s0 s : St} (h0 : Inv s0) (h : Reachable s0 s) : Inv s := by
  induction h with
  | init => exact h0
  | step _ hs ih => exact inv_step _ _ _ ih hs

theorem fidelity {s0 s : St} (h0 : Inv s0) (h : Reachable s0 s) (hf : s.fin = some true) :
    ∀ i, i < s.src.length → s.disk.getD i 0 = s.src.getD i 0 :=
  fidelity_of_inv (inv_reachable h0 h) hf

end TV.FileSys
