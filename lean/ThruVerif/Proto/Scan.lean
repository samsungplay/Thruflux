/-! Design-round sketch of the top-level naming of `ScanPaths` as it was before fix 7a265bb (DESIGN.md, appendix): the collision of probe P12. -/
namespace TV.Scan

abbrev Name := List UInt8

/-- decimal digits of `n` as ASCII bytes (structural on fuel so that the kernel can evaluate it) -/
def digitsAux : Nat → Nat → Name → Name
  | 0, _, acc => acc
  | fuel+1, n, acc =>
    let acc := UInt8.ofNat (48 + n % 10) :: acc
    if n / 10 = 0 then acc else digitsAux fuel (n / 10) acc
def digits (n : Nat) : Name := digitsAux 20 n []

/-- `ScanPaths` / `buildPathResolver`: ordinal prefix for base names that occur more than once -/
def topKey (bases : List Name) (i : Nat) : Name :=
  let b := bases.getD i []
  if (bases.filter (· == b)).length > 1 then
    digits (((bases.take i).filter (· == b)).length + 1) ++ [95] ++ b     -- "<ordinal>_" ++ base
  else b

def topKeys (bases : List Name) : List Name := (List.range bases.length).map (topKey bases)

def x : Name := [120]
def oneX : Name := [49, 95, 120]      -- "1_x"

/-- P12 as a model computation: the keys for [x, x, 1_x] are not pairwise distinct. -/
theorem prefix_collision : topKeys [x, x, oneX] = [oneX, [50, 95, 120], oneX] := by decide

end TV.Scan
