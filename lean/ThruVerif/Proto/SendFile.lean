/-! Design-round sketch of the per-file dispatch machine as it was before fix f1d4fbc (`trySendEnd` does not look at `resendPending`;
DESIGN.md, appendix) with the witness of probe P5. The machine as it is now is `Model/SendFile`; the lemmas of this version are in `Proto/SendOnce`. -/
namespace TV.SendFile

structure Plan where
  bitmap : List Bool
  forceFrom : Nat
  deriving DecidableEq, Repr

structure St where
  next : Nat
  total : Nat
  inFlight : Nat
  scheduleDone : Bool
  endSent : Bool
  verifyPending : Bool
  resendPending : Bool
  resendChunk : Nat
  plan : Option Plan
  deriving DecidableEq, Repr

def skip (p : Option Plan) (i : Nat) : Bool :=
  match p with
  | none => false
  | some p => p.bitmap.getD i false && decide (i < p.forceFrom)

/-- the `for s.nextChunk < s.totalChunks` loop of nextChunkToSend, by fuel = total - next -/
def scan (p : Option Plan) (total : Nat) : Nat → Nat → Option Nat × Nat
  | 0, next => (none, next)
  | fuel+1, next =>
    if next < total then
      if skip p next then scan p total fuel (next+1) else (some next, next+1)
    else (none, next)

def take (s : St) : St × Option Nat :=
  if s.resendPending then
    ({ s with resendPending := false, inFlight := s.inFlight + 1 }, some s.resendChunk)
  else if s.scheduleDone then (s, none)
  else
    match scan s.plan s.total (s.total - s.next) s.next with
    | (some i, n) => ({ s with next := n, inFlight := s.inFlight + 1, scheduleDone := decide (n ≥ s.total) }, some i)
    | (none, n) => ({ s with next := n, scheduleDone := true }, none)

def finish (s : St) : St × Bool :=
  let s := { s with inFlight := s.inFlight - 1 }
  if s.verifyPending then (s, false)
  else if s.scheduleDone && s.inFlight == 0 && !s.endSent then ({ s with endSent := true }, true)
  else (s, false)

def tryEnd (s : St) : St × Bool :=
  if s.verifyPending then (s, false)
  else if s.scheduleDone && s.inFlight == 0 && !s.endSent then ({ s with endSent := true }, true)
  else (s, false)

def verdict (s : St) (mismatch : Bool) (chunk : Nat) : St :=
  if mismatch then { s with resendChunk := chunk, resendPending := true, verifyPending := false }
  else { s with verifyPending := false }

inductive Op | take | finish | tryEnd | verdict (mismatch : Bool) (c : Nat)
  deriving DecidableEq, Repr
inductive Out | chunk (i : Nat) | none | fileEnd | nothing
  deriving DecidableEq, Repr

def step (s : St) : Op → St × Out
  | .take => let (s', o) := take s; (s', match o with | some i => .chunk i | none => .none)
  | .finish => let (s', e) := finish s; (s', if e then .fileEnd else .nothing)
  | .tryEnd => let (s', e) := tryEnd s; (s', if e then .fileEnd else .nothing)
  | .verdict m c => (verdict s m c, .nothing)

def run (s : St) : List Op → List Out
  | [] => []
  | o :: os => let (s', out) := step s o; out :: run s' os

def init4 : St :=
  { next := 0, total := 4, inFlight := 0, scheduleDone := false, endSent := false,
    verifyPending := true, resendPending := false, resendChunk := 0,
    plan := some { bitmap := [true, true, false, false], forceFrom := 2 } }

/-- the witness: FileEnd is emitted before the re-send of chunk 1 is taken. -/
theorem end_before_resend :
    run init4 [.take, .take, .finish, .verdict true 1, .finish, .take] =
      [.chunk 2, .chunk 3, .nothing, .nothing, .fileEnd, .chunk 1] := rfl

end TV.SendFile
