/-! Design-round sketch of the host's admission handlers as they were before fixes 8793c4e / 7ad6667 (DESIGN.md, appendix): `finished`
frees the slot without comparing generations. `cap_refuted` is the stale-finish history. The repaired handlers are `Model/Admission`. -/
namespace TV.Admission

inductive Status | joined | queued | transferring | done | failed
  deriving DecidableEq, Repr

structure Run where
  peer : Nat
  gen : Nat
  cancelled : Bool
  deriving DecidableEq, Repr

structure St where
  max : Nat
  status : List (Nat × Status)
  queue : List Nat
  active : List (Nat × Nat)      -- peer ↦ generation of the slot
  running : List Run             -- ghost: transfer functions that have not returned yet
  nextGen : Nat
  deriving DecidableEq, Repr

def getStatus (s : St) (p : Nat) : Option Status := (s.status.find? (·.1 == p)).map (·.2)
def setStatus (s : St) (p : Nat) (v : Status) : St :=
  { s with status := (p, v) :: s.status.filter (·.1 != p) }

/-- `maybeStartTransfers`, by fuel = queue length -/
def pump : Nat → St → St
  | 0, s => s
  | fuel+1, s =>
    if s.active.length ≥ s.max then s else
    match s.queue with
    | [] => s
    | p :: q =>
      let s := { s with queue := q }
      match getStatus s p with
      | none => pump fuel s
      | some .transferring => pump fuel s
      | some _ =>
        let s := setStatus s p .transferring
        pump fuel { s with active := (p, s.nextGen) :: s.active.filter (·.1 != p),
                           running := ⟨p, s.nextGen, false⟩ :: s.running, nextGen := s.nextGen + 1 }

inductive Ev | joined (p : Nat) | accept (p : Nat) | left (p : Nat) | finished (p g : Nat) (ok : Bool)
  deriving DecidableEq, Repr

def step (s : St) : Ev → St
  | .joined p => setStatus s p .joined
  | .accept p =>
    if getStatus s p = some .transferring then s else
    let s := setStatus s p .queued
    let s := if s.queue.contains p then s else { s with queue := s.queue ++ [p] }
    pump (s.queue.length + 1) s
  | .left p =>
    let s := if getStatus s p ≠ none ∧ getStatus s p ≠ some .done then setStatus s p .failed else s
    let s := { s with running := s.running.map fun r => if r.peer = p ∧ s.active.contains (p, r.gen) then { r with cancelled := true } else r,
                      active := s.active.filter (·.1 != p), queue := s.queue.filter (· != p) }
    pump (s.queue.length + 1) s
  | .finished p g ok =>
    let s := if getStatus s p ≠ none then setStatus s p (if ok then .done else .failed) else s
    let s := { s with active := s.active.filter (·.1 != p),          -- NB: by peer, not by generation
                      running := s.running.filter fun r => !(r.peer = p ∧ r.gen = g) }
    pump (s.queue.length + 1) s

def live (s : St) : Nat := (s.running.filter (!·.cancelled)).length

def init (max : Nat) : St := { max, status := [], queue := [], active := [], running := [], nextGen := 0 }

/-- the stale-finish history: with max = 1, two uncancelled transfers run at once -/
theorem cap_refuted :
    live ([Ev.joined 1, .accept 1, .left 1, .joined 1, .accept 1, .joined 2, .accept 2, .finished 1 0 false].foldl step (init 1)) = 2 := by
  decide

end TV.Admission
