/-! Design-round sketch of `ProbeAndDial` as it was before fix dc86572 (the race decided by a non-blocking send on a one-slot channel;
DESIGN.md, appendix) with two witnesses; `Props/C09` restates the first (`C09_single_refuted_before_fix`) and cites the second. The repaired race is `Model/Race`. -/
namespace TV.RaceOld

/-- one dial task of `ProbeAndDial` -/
inductive Task | probing | established | offered | closed | cancelled | failed
  deriving DecidableEq, Repr

structure St where
  tasks : List Task
  slot : Option Nat          -- the one-element result channel
  returned : Option Nat      -- connection handed to the caller
  cancelledCtx : Bool
  serverOrder : List Nat     -- order in which the listener completed the handshakes
  deriving DecidableEq, Repr

inductive Step
  | handshake (i : Nat)      -- candidate i's QUIC handshake completes on both ends
  | offer (i : Nat)          -- task i runs `select { case resultCh <- conn: …; default: close }`
  | mainRecv                 -- caller receives from resultCh, returns, deferred cancel fires
  | cancelSeen (i : Nat)     -- a still-probing dial observes the cancelled context
  deriving DecidableEq, Repr

def step (s : St) : Step → Option St
  | .handshake i =>
    if s.tasks[i]?.getD .failed = .probing then
      some { s with tasks := s.tasks.set i .established, serverOrder := s.serverOrder ++ [i] }
    else none
  | .offer i =>
    if s.tasks[i]?.getD .failed = .established then
      match s.slot with
      | none => some { s with tasks := s.tasks.set i .offered, slot := some i }
      | some _ => some { s with tasks := s.tasks.set i .closed }
    else none
  | .mainRecv =>
    match s.slot, s.returned with
    | some i, none => some { s with slot := none, returned := some i, cancelledCtx := true }
    | _, _ => none
  | .cancelSeen i =>
    if s.cancelledCtx ∧ s.tasks[i]?.getD .failed = .probing then some { s with tasks := s.tasks.set i .cancelled } else none

def run (s : St) : List Step → Option St
  | [] => some s
  | a :: as => match step s a with | some s' => run s' as | none => none

def init (k : Nat) : St :=
  { tasks := List.replicate k .probing, slot := none, returned := none, cancelledCtx := false, serverOrder := [] }

/-- connections still open on the dialing side: offered (won or parked in the slot) and established-not-yet-offered -/
def openConns (s : St) : List Nat :=
  (List.range s.tasks.length).filter fun i => s.tasks[i]?.getD .failed = .offered ∨ s.tasks[i]?.getD .failed = .established

/-- late winner: both handshakes complete, the caller takes conn 0 out of the slot, then task 1 finds the slot empty again -/
theorem late_winner_leaks :
    (run (init 2) [.handshake 0, .handshake 1, .offer 0, .mainRecv, .offer 1]).map
      (fun s => (s.returned, openConns s, s.slot)) = some (some 0, [0, 1], some 1) := by decide

/-- listener commitment: the server side may have completed conn 1 first and takes it as primary, the dialer returns conn 0 -/
theorem listener_disagrees :
    (run (init 2) [.handshake 1, .handshake 0, .offer 0, .mainRecv, .offer 1]).map
      (fun s => (s.returned, s.serverOrder.head?)) = some (some 0, some 1) := by decide

end TV.RaceOld
