import ThruVerif.Proto.Auth
/-! Continuation of `Proto/Auth`: the wire message, what the attacker sees of it, and the soundness of acceptance. -/
namespace TV.Auth
open Tm

/-- wire message ⟨version, role, nonce, mac⟩ -/
def msg (role n : Nat) (mac : Tm) : Tm := pair (byte 1) (pair (byte role) (pair (nonce n) mac))
def key (c e : Nat) : Tm := hmac (code c) (ekm e)
def proof (k : Tm) (role n : Nat) : Tm := hmac k (pair (byte 1) (pair (byte role) (nonce n)))

def roleSender := 1
def roleReceiver := 2

/-- what an honest party ever puts on the wire: its proof for its own role, under the key of its own session -/
structure HonestSend where
  e : Nat        -- TLS session
  role : Nat
  n : Nat
  deriving DecidableEq

def wire (c : Nat) (h : HonestSend) : Tm := msg h.role h.n (proof (key c h.e) h.role h.n)

/-- attacker knowledge = all honest wire messages of the run -/
def Know (c : Nat) (sent : List HonestSend) : Tm → Prop := fun t => ∃ h ∈ sent, t = wire c h

/-- components of a wire message, enumerated -/
theorem parts_wire {c : Nat} {sent : List HonestSend} {t : Tm} (hp : Parts (Know c sent) t) :
    ∃ h ∈ sent,
      t = wire c h ∨ t = byte 1 ∨
      t = pair (byte h.role) (pair (nonce h.n) (proof (key c h.e) h.role h.n)) ∨ t = byte h.role ∨
      t = pair (nonce h.n) (proof (key c h.e) h.role h.n) ∨ t = nonce h.n ∨
      t = proof (key c h.e) h.role h.n := by
  induction hp with
  | base hk =>
    obtain ⟨h, hm, rfl⟩ := hk
    exact ⟨h, hm, Or.inl rfl⟩
  | fst _ ih | snd _ ih =>
    -- a component of a term on the list is the next on the list (first component) or the next but one (second)
    obtain ⟨h, hm, hc⟩ := ih
    refine ⟨h, hm, ?_⟩
    rcases hc with e | e | e | e | e | e | e <;> simp [wire, msg, proof] at e <;> simp [e, wire, msg, proof]

theorem know_clean (W : World) (sent : List HonestSend) : Clean W (Know W.secret sent) := by
  refine ⟨fun hp => ?_, fun e hp => ?_⟩ <;>
  · obtain ⟨h, _, hc⟩ := parts_wire hp
    -- no alternative is a `code` term; the one `hmac` among them has an `hmac` as its key
    simp [wire, msg, proof] at hc

/-- the check an honest party performs on an incoming message, for its own session `e` and the role it expects -/
def accepts (c e expectRole : Nat) (m : Tm) : Prop :=
  ∃ n, m = msg expectRole n (proof (key c e) expectRole n)

/-- C08 soundness core: whatever the attacker can derive from all honest traffic (of any sessions), its own sessions'
    exporter secrets, other codes, fresh nonces and bytes — if an honest party in session `e` accepts it as coming from
    `expectRole`, then an honest party of that role in that same session sent exactly that proof. -/
theorem accept_sound (W : World) (sent : List HonestSend) (e expectRole : Nat) (m : Tm)
    (hd : Der W (Know W.secret sent) m) (ha : accepts W.secret e expectRole m) :
    ∃ h ∈ sent, h.e = e ∧ h.role = expectRole := by
  obtain ⟨n, rfl⟩ := ha
  -- a derivable pair has derivable components: it is a part of the traffic, or it was paired from them
  have snd : ∀ {a b}, Der W (Know W.secret sent) (pair a b) → Der W (Know W.secret sent) b := by
    intro a b h
    cases h with
    | parts hp => exact Der.parts (Parts.snd hp)
    | pair _ hb => exact hb
  -- so the MAC, the last component of `m`, is derivable
  obtain ⟨h, hm, hc⟩ := parts_wire (mac_from_traffic (know_clean W sent) e _ (snd (snd (snd hd))))
  refine ⟨h, hm, ?_⟩
  -- only the last alternative is an `hmac` term; there key and body agree, hence session and role
  simp [wire, msg, proof, key] at hc
  obtain ⟨he, hr, _⟩ : e = h.e ∧ expectRole = h.role ∧ n = h.n := hc
  exact ⟨he.symm, hr.symm⟩

/-- reflection is rejected: a sender's own proof never satisfies the check the sender performs on the reply -/
theorem reflection_rejected (c e n : Nat) : ¬ accepts c e roleReceiver (msg roleSender n (proof (key c e) roleSender n)) := by
  intro ⟨n', h⟩
  simp [msg, roleSender, roleReceiver] at h

/-- relay between two TLS sessions: a proof made for session e₁ is not accepted in session e₂ ≠ e₁ -/
theorem relay_rejected (c e1 e2 role n : Nat) (hne : e1 ≠ e2) :
    ¬ accepts c e2 role (msg role n (proof (key c e1) role n)) := by
  intro ⟨n', h⟩
  simp [msg, proof, key] at h
  obtain ⟨_, he, _⟩ : n = n' ∧ e1 = e2 ∧ n = n' := h
  exact hne he

/-- completeness: the honest sender's message is accepted by the honest receiver of the same session and code,
    and it is derivable (trivially) from the traffic — so `accept_sound`'s hypotheses are satisfiable. -/
example (W : World) (e n : Nat) :
    let sent := [⟨e, roleSender, n⟩]
    Der W (Know W.secret sent) (wire W.secret ⟨e, roleSender, n⟩) ∧
    accepts W.secret e roleSender (wire W.secret ⟨e, roleSender, n⟩) := by
  refine ⟨Der.parts (Parts.base ⟨_, by simp, rfl⟩), ⟨n, rfl⟩⟩

end TV.Auth
