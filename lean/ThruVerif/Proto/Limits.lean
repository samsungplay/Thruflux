/-! Design-round sketch of the `/session` limit as it was before fix 066df67 (DESIGN.md, appendix): count test and create in two locked steps. -/
namespace TV.Limits

/-- `/session` handler: `if max > 0 && store.Count() >= max { reject }` … `store.Create()` are two separately locked steps -/
inductive Pc | start | checked | done | rejected
  deriving DecidableEq, Repr

structure St where
  max : Nat
  count : Nat
  pcs : List Pc
  deriving DecidableEq, Repr

def step (s : St) (t : Nat) : Option St :=
  match s.pcs[t]?.getD .done with
  | .start =>
    if s.max > 0 ∧ s.count ≥ s.max then some { s with pcs := s.pcs.set t .rejected }
    else some { s with pcs := s.pcs.set t .checked }
  | .checked => some { s with count := s.count + 1, pcs := s.pcs.set t .done }
  | _ => none

def run (s : St) : List Nat → Option St
  | [] => some s
  | t :: ts => match step s t with | some s' => run s' ts | none => none

/-- two concurrent creates at count = max − 1 both pass the check -/
theorem check_then_act_exceeds :
    (run { max := 3, count := 2, pcs := [.start, .start] } [0, 1, 0, 1]).map (·.count) = some 4 := by decide

/-- sequentially (each handler runs to completion) the limit holds: the model run that the real server showed in P13 -/
theorem sequential_ok :
    (run { max := 3, count := 2, pcs := [.start, .start] } [0, 0, 1]).map (fun s => (s.count, s.pcs)) =
      some (3, [.done, .rejected]) := by decide

end TV.Limits
