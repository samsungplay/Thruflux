import ThruVerif.Model.ProtoLMC
import ThruVerif.Proofs.ProtoLM
/-! Invariant, progress and decreasing measure of the multi-connection liveness abstraction (`Model/ProtoLMC`): the file-level
protocol of `Proofs/ProtoLM` (`Files`), stream visibility per connection, and the frames the receiver does not wait for. -/
namespace TV.ProtoLMC
open TV.ProtoLM (upd sumN b2n allB upd_same upd_other upd_true_iff sum_change sumN_pos sumN_add bufSet bufSet_pos total_bufSet Files)

/-- the `g`-th stream opened is within the streams of its connection exactly if it was opened at all -/
theorem pos_lt_cnt {n c w : Nat} (hc : 0 < c) : w / c < cnt n c (w % c) ↔ w ≤ n := by
  unfold cnt
  have h1 := Nat.div_add_mod w c
  have h2 : w % c < c := Nat.mod_lt w hc
  have h3 : (w / c + 1) * c = c * (w / c) + c := by rw [Nat.add_mul, Nat.mul_comm, Nat.one_mul]
  rw [Nat.lt_iff_add_one_le, Nat.le_div_iff_mul_le hc, h3]
  omega

/-- connection 0 carries the control stream -/
theorem cnt_zero_pos {n c : Nat} (hc : 0 < c) : 1 ≤ cnt n c 0 := by
  have := (pos_lt_cnt (n := n) (w := 0) hc).mpr (Nat.zero_le n)
  rwa [Nat.zero_div, Nat.zero_mod] at this

structure Inv (s : St) : Prop where
  cons : ∀ f, f < s.k → s.remaining f = s.toSend f + inflight s f
  vis : ∀ w f, s.buf w f > 0 → w / s.c < s.visible (w % s.c)
  acc : ∀ j, j < s.c → s.accepted j ≤ s.visible j ∧ s.visible j ≤ cnt s.n s.c j
  visU : ∀ w f, s.bufU w f > 0 → w / s.c < s.visible (w % s.c)
  endsU : ∀ f, f < s.k → s.endSent f = true → s.toSendU f = 0
  done1 : ∀ f, f < s.k → s.doneSent f = true → s.remaining f = 0 ∧ s.endRecv f = true
  done2 : ∀ f, f < s.k → s.remaining f = 0 → s.endRecv f = true → s.doneSent f = true
  endo : ∀ f, f < s.k → s.endRecv f = true → s.endSent f = true
  ends : ∀ f, f < s.k → s.endSent f = true → s.toSend f = 0
  dr : ∀ f, f < s.k → s.doneRecv f = true → s.doneSent f = true
  eas : s.endAllSent = true → allB s.k s.doneRecv
  ear : s.endAllRecv = true → s.endAllSent = true
  npos : 0 < s.n
  cpos : 0 < s.c

/-- the streams `0 .. n` as the file-level protocol sees them -/
def files (s : St) : Files :=
  { k := s.k, n := s.n + 1, toSend := s.toSend, remaining := s.remaining, buf := s.buf, endSent := s.endSent, endRecv := s.endRecv,
    doneSent := s.doneSent, doneRecv := s.doneRecv, endAllSent := s.endAllSent, endAllRecv := s.endAllRecv }

theorem Inv.files {s : St} (hi : Inv s) : (files s).Inv :=
  ⟨fun f hf => ⟨hi.cons f hf, hi.done1 f hf, hi.done2 f hf, hi.endo f hf, hi.ends f hf, hi.dr f hf⟩, hi.eas, hi.ear⟩

theorem inv_of_files {s : St} (h : (files s).Inv) (vis : ∀ w f, s.buf w f > 0 → w / s.c < s.visible (w % s.c))
    (acc : ∀ j, j < s.c → s.accepted j ≤ s.visible j ∧ s.visible j ≤ cnt s.n s.c j)
    (visU : ∀ w f, s.bufU w f > 0 → w / s.c < s.visible (w % s.c)) (endsU : ∀ f, f < s.k → s.endSent f = true → s.toSendU f = 0)
    (npos : 0 < s.n) (cpos : 0 < s.c) : Inv s :=
  { vis, acc, visU, endsU, npos, cpos, eas := h.eas, ear := h.ear
    cons := fun f hf => (h.ok f hf).cons
    done1 := fun f hf => (h.ok f hf).done1
    done2 := fun f hf => (h.ok f hf).done2
    endo := fun f hf => (h.ok f hf).endo
    ends := fun f hf => (h.ok f hf).ends
    dr := fun f hf => (h.ok f hf).dr }

/-- a stream that carries a frame is one of the sender's -/
theorem Inv.lt_of_vis {s : St} (hi : Inv s) {w : Nat} (h : w / s.c < s.visible (w % s.c)) : w < s.n + 1 := by
  have := (hi.acc _ (Nat.mod_lt w hi.cpos)).2
  have := (pos_lt_cnt (n := s.n) (w := w) hi.cpos).mp (by omega)
  omega

def term (s : St) (f : Nat) : Nat := 2 * s.toSend f + b2n (!s.endSent f) + b2n (!s.endRecv f) + b2n (!s.doneRecv f)

/-- streams of connection `j` the receiver has not taken yet -/
def open_ (s : St) (j : Nat) : Nat := cnt s.n s.c j - s.accepted j

def termU (s : St) (f : Nat) : Nat := 2 * s.toSendU f

theorem measure_eq (s : St) :
    measure s = sumN s.k (term s) + sumN s.k (inflight s) + sumN s.k (termU s) + sumN s.k (inflightU s) + sumN s.c (open_ s) +
      b2n (!s.endAllSent) + b2n (!s.endAllRecv) := rfl

/-- what the measure counts beside the file-level protocol: the frames the receiver does not wait for, and the streams not yet accepted -/
def rest (s : St) : Nat :=
  sumN s.k (fun f => 2 * s.toSendU f) + sumN s.k (fun f => sumN (s.n + 1) (fun w => s.bufU w f)) +
    sumN s.c (fun j => cnt s.n s.c j - s.accepted j)

theorem measure_files (s : St) : measure s = (files s).measure + rest s := by
  -- the weight of file `f` in `files s` unfolds to `term s f + inflight s f`
  have h : (files s).measure = sumN s.k (term s) + sumN s.k (inflight s) + b2n (!s.endAllSent) + b2n (!s.endAllRecv) :=
    congrArg (· + _ + _) (sumN_add s.k (term s) (inflight s))
  rw [h, measure_eq]
  show _ = _ + (sumN s.k (termU s) + sumN s.k (inflightU s) + sumN s.c (open_ s))
  omega

/-- `ProtoLM.lift` for a step of the file-level protocol that leaves the rest alone -/
theorem lift {s s' : St} (hfiles : (files s).Next (files s')) (hrest : rest s' = rest s)
    (vis : ∀ w f, s'.buf w f > 0 → w / s'.c < s'.visible (w % s'.c))
    (acc : ∀ j, j < s'.c → s'.accepted j ≤ s'.visible j ∧ s'.visible j ≤ cnt s'.n s'.c j)
    (visU : ∀ w f, s'.bufU w f > 0 → w / s'.c < s'.visible (w % s'.c)) (endsU : ∀ f, f < s'.k → s'.endSent f = true → s'.toSendU f = 0)
    (npos : 0 < s'.n) (cpos : 0 < s'.c) : Inv s' ∧ measure s' + 1 = measure s :=
  ⟨inv_of_files hfiles.inv vis acc visU endsU npos cpos, by rw [measure_files, measure_files, hrest, ← hfiles.dec, Nat.add_right_comm]⟩

/-- the other steps do not touch what the file-level protocol sees and take one off the rest -/
theorem measure_of_rest {s s' : St} (hfiles : files s' = files s) (hrest : rest s' + 1 = rest s) : measure s' + 1 = measure s := by
  rw [measure_files, measure_files, hfiles, ← hrest, Nat.add_assoc]

theorem rest_dispatchU (s : St) {f w : Nat} (hf : f < s.k) (hw : w < s.n + 1) (ht : 0 < s.toSendU f) (v : Nat → Nat) :
    rest { s with toSendU := upd s.toSendU f (s.toSendU f - 1), bufU := bufSet s.bufU w f (s.bufU w f + 1), visible := v } + 1 = rest s := by
  have h1 := sum_change (g := fun g => 2 * s.toSendU g) (g' := fun g => 2 * upd s.toSendU f (s.toSendU f - 1) g) hf
    (fun g hg => by rw [upd_other _ _ _ _ hg])
  have h2 := total_bufSet s.k (s.n + 1) s.bufU w f (s.bufU w f + 1) hf hw
  simp only [rest, upd_same] at h1 ⊢
  omega

theorem rest_readFrameU (s : St) {f w : Nat} (hf : f < s.k) (hw : w < s.n + 1) (hb : 0 < s.bufU w f) :
    rest { s with bufU := bufSet s.bufU w f (s.bufU w f - 1) } + 1 = rest s := by
  have h2 := total_bufSet s.k (s.n + 1) s.bufU w f (s.bufU w f - 1) hf hw
  simp only [rest]
  omega

theorem rest_accept (s : St) {j : Nat} (hj : j < s.c) (ha : s.accepted j < cnt s.n s.c j) :
    rest { s with accepted := upd s.accepted j (s.accepted j + 1) } + 1 = rest s := by
  have h1 := sum_change (g := fun j' => cnt s.n s.c j' - s.accepted j') (g' := fun j' => cnt s.n s.c j' - upd s.accepted j (s.accepted j + 1) j') hj
    (fun g hg => by rw [upd_other _ _ _ _ hg])
  simp only [rest, upd_same] at h1 ⊢
  omega

theorem fin_eq (s : St) (f : Nat) : fin s f = { s with doneSent := ((files s).fin f).doneSent } :=
  (apply_ite (fun d => ({ s with doneSent := d } : St)) _ _ _).symm

theorem inv_init (k n c : Nat) (chunks extra : Nat → Nat) (hn : 0 < n) (hc : 0 < c) : Inv (init k n c chunks extra) := by
  refine inv_of_files (Files.inv_init k (n + 1) chunks) (vis := nofun) (acc := fun j _ => ?_) (visU := nofun) (endsU := nofun) hn hc
  show (if j = 0 then 1 else 0) ≤ (if j = 0 then 1 else 0) ∧ (if j = 0 then 1 else 0) ≤ cnt n c j
  refine ⟨Nat.le_refl _, ?_⟩
  split
  · exact ‹j = 0› ▸ cnt_zero_pos hc
  · exact Nat.zero_le _

/-- a frame written on stream `w` reveals the streams of `w`'s connection up to `w` -/
def raise (s : St) (w : Nat) : Nat → Nat := upd s.visible (w % s.c) (max (s.visible (w % s.c)) (w / s.c + 1))

theorem le_raise (s : St) (w j : Nat) : s.visible j ≤ raise s w j := by
  unfold raise
  by_cases h : j = w % s.c
  · subst h; rw [upd_same]; exact Nat.le_max_left ..
  · rw [upd_other _ _ _ _ h]; exact Nat.le_refl _

theorem lt_raise_of (s : St) (w : Nat) {w' : Nat} (h : w' / s.c < s.visible (w' % s.c)) : w' / s.c < raise s w (w' % s.c) :=
  Nat.lt_of_lt_of_le h (le_raise ..)

theorem lt_raise (s : St) (w : Nat) : w / s.c < raise s w (w % s.c) := by
  unfold raise
  rw [upd_same]; exact Nat.le_max_right ..

/-- a frame put on `w`, in `buf` or in `bufU`: every stream that carries a frame afterwards is visible under `raise s w` -/
theorem raise_bufSet {s : St} {buf : Nat → Nat → Nat} (h : ∀ w' f', buf w' f' > 0 → w' / s.c < s.visible (w' % s.c)) (w f v w' f' : Nat)
    (hb : bufSet buf w f v w' f' > 0) : w' / s.c < raise s w (w' % s.c) :=
  bufSet_pos (P := fun w' => w' / s.c < raise s w (w' % s.c)) (h := fun w₁ f₁ h₁ => lt_raise_of s w (h w₁ f₁ h₁)) (hw := lt_raise s w) hb

theorem Inv.acc_raise {s : St} (hi : Inv s) {w : Nat} (hw : w ≤ s.n) (j : Nat) (hj : j < s.c) :
    s.accepted j ≤ raise s w j ∧ raise s w j ≤ cnt s.n s.c j := by
  have := hi.acc j hj
  refine ⟨Nat.le_trans this.1 (le_raise s w j), ?_⟩
  unfold raise
  by_cases h : j = w % s.c
  · subst h
    have := (pos_lt_cnt hi.cpos).mpr hw
    rw [upd_same]; omega
  · rw [upd_other _ _ _ _ h]; exact this.2

theorem step_spec {s s' : St} {a : Step} (hi : Inv s) (hs : step s a = some s') : Inv s' ∧ measure s' + 1 = measure s := by
  cases a with
  | dispatch f w =>
    obtain ⟨⟨hf, hw1, hw, ht⟩, rfl⟩ := Option.ite_some_none_eq_some.mp hs
    exact lift (hi.files.dispatch hf (show w < s.n + 1 by omega) ht) (hrest := rfl) (vis := raise_bufSet hi.vis w f _)
      (acc := hi.acc_raise hw) (visU := fun w' f' hb => lt_raise_of s w (hi.visU w' f' hb)) hi.endsU hi.npos hi.cpos
  | dispatchU f w =>
    obtain ⟨⟨hf, hw1, hw, ht⟩, rfl⟩ := Option.ite_some_none_eq_some.mp hs
    -- only `toSendU`, `bufU` and `visible` change, none of which `files` looks at
    refine ⟨{ hi with
      vis := fun w' f' hb => lt_raise_of s w (hi.vis w' f' hb)
      acc := hi.acc_raise hw
      visU := raise_bufSet hi.visU w f _
      endsU := fun g hg he => ?_ }, measure_of_rest rfl (rest_dispatchU s hf (by omega) ht _)⟩
    have := hi.endsU g hg he
    by_cases hgf : g = f
    · -- `FileEnd` of `f` is not out: there was an extra chunk of `f` to hand out (`ht`)
      subst hgf; exact absurd this (by omega)
    · simp only [upd_other _ _ _ _ hgf]; exact this
  | readFrameU w f =>
    obtain ⟨⟨hf, hw, hb⟩, rfl⟩ := Option.ite_some_none_eq_some.mp hs
    exact ⟨{ hi with visU := fun _ _ => bufSet_pos hi.visU (hw := hi.visU w f hb) },
      measure_of_rest rfl (rest_readFrameU s hf (hi.lt_of_vis (hi.visU w f hb)) hb)⟩
  | sendEnd f =>
    obtain ⟨⟨hf, ht, hu, he⟩, rfl⟩ := Option.ite_some_none_eq_some.mp hs
    exact lift (hi.files.sendEnd hf ht he) (hrest := rfl) hi.vis hi.acc hi.visU
      (endsU := fun g hg h => (upd_true_iff.mp h).elim (fun (e : g = f) => e ▸ hu) (hi.endsU g hg)) hi.npos hi.cpos
  | accept j =>
    obtain ⟨⟨hj, ha⟩, rfl⟩ := Option.ite_some_none_eq_some.mp hs
    have := hi.acc j hj
    refine ⟨{ hi with acc := fun j' hj' => ?_ }, measure_of_rest rfl (rest_accept s hj (by omega))⟩
    by_cases h : j' = j
    · subst h; simp only [upd_same]; omega
    · simp only [upd_other _ _ _ _ h]; exact hi.acc j' hj'
  | readFrame w f =>
    obtain ⟨⟨hf, hw, hb⟩, rfl⟩ := Option.ite_some_none_eq_some.mp hs
    have h := hi.files.read hf (hi.lt_of_vis (hi.vis w f hb)) hb
    rw [fin_eq]
    exact lift h (hrest := rfl) (vis := fun _ _ => bufSet_pos hi.vis (hw := hi.vis w f hb)) hi.acc hi.visU hi.endsU hi.npos hi.cpos
  | recvEnd f =>
    obtain ⟨⟨hf, he, hr⟩, rfl⟩ := Option.ite_some_none_eq_some.mp hs
    have h := hi.files.recvEnd hf he hr
    rw [fin_eq]
    exact lift h (hrest := rfl) hi.vis hi.acc hi.visU hi.endsU hi.npos hi.cpos
  | recvDone f =>
    obtain ⟨⟨hf, hd, hr⟩, rfl⟩ := Option.ite_some_none_eq_some.mp hs
    exact lift (hi.files.recvDone hf hd hr) (hrest := rfl) hi.vis hi.acc hi.visU hi.endsU hi.npos hi.cpos
  | sendEndAll =>
    obtain ⟨⟨hd, he⟩, rfl⟩ := Option.ite_some_none_eq_some.mp hs
    -- the sender's workers close their streams: all of them become visible
    have hv : ∀ w, w / s.c < s.visible (w % s.c) → w / s.c < cnt s.n s.c (w % s.c) := fun w h =>
      Nat.lt_of_lt_of_le h (hi.acc _ (Nat.mod_lt w hi.cpos)).2
    exact lift (hi.files.sendEndAll hd he) (hrest := rfl) (vis := fun w f hb => hv w (hi.vis w f hb))
      (acc := fun j hj => ⟨Nat.le_trans (hi.acc j hj).1 (hi.acc j hj).2, Nat.le_refl _⟩) (visU := fun w f hb => hv w (hi.visU w f hb))
      hi.endsU hi.npos hi.cpos
  | recvEndAll =>
    obtain ⟨⟨he, hr⟩, rfl⟩ := Option.ite_some_none_eq_some.mp hs
    exact lift (hi.files.recvEndAll he hr) (hrest := rfl) hi.vis hi.acc hi.visU hi.endsU hi.npos hi.cpos

theorem step_inv {s s' : St} {a : Step} (hi : Inv s) (hs : step s a = some s') : Inv s' := (step_spec hi hs).1

theorem step_measure {s s' : St} {a : Step} (hi : Inv s) (hs : step s a = some s') : measure s' < measure s :=
  Nat.lt_of_succ_le (Nat.le_of_eq (step_spec hi hs).2)

theorem reachable_inv {k n c : Nat} {chunks extra : Nat → Nat} (hn : 0 < n) (hc : 0 < c) {s : St} (h : Reachable k n c chunks extra s) : Inv s := by
  induction h with
  | init => exact inv_init k n c chunks extra hn hc
  | step a _ hs ih => exact step_inv ih hs

theorem progress {s : St} (hi : Inv s) (hnf : s.endAllRecv = false) : ∃ a s', step s a = some s' := by
  rcases hi.files.enabled hnf with ⟨f, hf, hd, h | h | h | h | h⟩ | h | h
  · exact ⟨.dispatch f 1, _, if_pos ⟨hf, Nat.le_refl 1, hi.npos, h⟩⟩
  · by_cases hu : 0 < s.toSendU f
    · exact ⟨.dispatchU f 1, _, if_pos ⟨hf, Nat.le_refl 1, hi.npos, hu⟩⟩
    · exact ⟨.sendEnd f, _, if_pos ⟨hf, h.1, by omega, h.2⟩⟩
  · exact ⟨.recvEnd f, _, if_pos ⟨hf, h⟩⟩
  · -- a frame in flight sits on a visible stream: it can be read, after accepting streams of its connection up to its own if need be
    obtain ⟨w, _, hb⟩ := sumN_pos h
    have := hi.vis w f hb
    by_cases hwa : w / s.c < s.accepted (w % s.c)
    · exact ⟨.readFrame w f, _, if_pos ⟨hf, hwa, hb⟩⟩
    · exact ⟨.accept (w % s.c), _, if_pos ⟨Nat.mod_lt w hi.cpos, by omega⟩⟩
  · exact ⟨.recvDone f, _, if_pos ⟨hf, h, hd⟩⟩
  · exact ⟨.sendEndAll, _, if_pos h⟩
  · exact ⟨.recvEndAll, _, if_pos h⟩

end TV.ProtoLMC
