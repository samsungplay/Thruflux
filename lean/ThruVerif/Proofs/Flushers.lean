import ThruVerif.Model.Flushers
import ThruVerif.Proofs.Step

/-! Invariant of the several-flushers model (`Model/Flushers`) with the sidecar mutex held around the I/O. -/
namespace TV.Flushers

theorem step_begin {m : Bool} {s s' : St} {j b : Nat} (h : step m s (.begin_ j b) = some s') :
    (s.pcs[j]? = some .idle ∧ (m = true → s.lock = none)) ∧
      s' = { s with pcs := s.pcs.set j (.snapped b), lock := if m then some j else s.lock, snaps := b :: s.snaps } := by
  simp only [step] at h
  split at h <;> cases h
  exact ⟨‹_›, rfl⟩

theorem step_trunc {m : Bool} {s s' : St} {j : Nat} (h : step m s (.trunc j) = some s') :
    ∃ b, s.pcs[j]? = some (.snapped b) ∧ s' = { s with pcs := s.pcs.set j (.writing b), tmp := some (.torn j) } := by
  simp only [step] at h
  split at h <;> cases h
  exact ⟨_, ‹_›, rfl⟩

theorem step_finish {m : Bool} {s s' : St} {j : Nat} (h : step m s (.finish j) = some s') :
    ∃ b, s.pcs[j]? = some (.writing b) ∧
      s' = { s with pcs := s.pcs.set j (.wroteTmp b), tmp := if s.tmp = some (.torn j) then some (.full b) else s.tmp } := by
  simp only [step] at h
  split at h <;> cases h
  exact ⟨_, ‹_›, rfl⟩

theorem step_rename {m : Bool} {s s' : St} {j : Nat} (h : step m s (.rename j) = some s') :
    ∃ b, s.pcs[j]? = some (.wroteTmp b) ∧ s' = match s.tmp with
      | some f => { s with pcs := s.pcs.set j .renamed, disk := some f, tmp := none }
      | none => { s with pcs := s.pcs.set j .renamed } := by
  simp only [step] at h
  split at h
  · exact ⟨_, ‹_›, by split at h <;> cases h <;> simp [*]⟩
  · cases h

theorem step_end {m : Bool} {s s' : St} {j : Nat} (h : step m s (.end_ j) = some s') :
    s.pcs[j]? = some .renamed ∧ s' = { s with pcs := s.pcs.set j .idle, lock := if s.lock = some j then none else s.lock } := by
  simp only [step] at h
  split at h <;> cases h
  exact ⟨‹_›, rfl⟩

theorem step_kill {m : Bool} {s s' : St} (h : step m s .kill = some s') :
    s' = { s with pcs := s.pcs.map (fun _ => .idle), lock := none } :=
  (Option.some.inj h).symm

structure Inv (s : St) : Prop where
  /-- a flusher that is not idle holds the mutex -/
  held : ∀ (j : Nat) (p : Pc), s.pcs[j]? = some p → p ≠ Pc.idle → s.lock = some j
  snapped : ∀ (j b : Nat), s.pcs[j]? = some (Pc.snapped b) → b ∈ s.snaps
  writing : ∀ (j b : Nat), s.pcs[j]? = some (Pc.writing b) → s.tmp = some (File.torn j) ∧ b ∈ s.snaps
  wrote : ∀ (j b : Nat), s.pcs[j]? = some (Pc.wroteTmp b) → s.tmp = some (File.full b) ∧ b ∈ s.snaps
  disk : diskOk s

theorem inv_of_idle {s : St} (hidle : ∀ p ∈ s.pcs, p = .idle) (hd : diskOk s) : Inv s where
  held _ _ hp hne := absurd (hidle _ (List.mem_of_getElem? hp)) hne
  snapped _ _ hp := nomatch hidle _ (List.mem_of_getElem? hp)
  writing _ _ hp := nomatch hidle _ (List.mem_of_getElem? hp)
  wrote _ _ hp := nomatch hidle _ (List.mem_of_getElem? hp)
  disk := hd

theorem inv_init (n : Nat) : Inv (init n) :=
  inv_of_idle (fun _ hp => List.eq_of_mem_replicate hp) (.inl rfl)

/-- Flusher `j`, the only one that may hold the mutex, moves to `q` while the others stay as they are: they are idle, so the
invariant has to be checked for `j` at `q` only. Every step but `kill` has this shape. -/
theorem inv_set {s s' : St} {j : Nat} {q : Pc} (hI : Inv s) (hl : s.lock = none ∨ s.lock = some j)
    (hpcs : s'.pcs = s.pcs.set j q)
    (held : q ≠ .idle → s'.lock = some j)
    (snapped : ∀ b, q = .snapped b → b ∈ s'.snaps)
    (writing : ∀ b, q = .writing b → s'.tmp = some (.torn j) ∧ b ∈ s'.snaps)
    (wrote : ∀ b, q = .wroteTmp b → s'.tmp = some (.full b) ∧ b ∈ s'.snaps)
    (disk : diskOk s') : Inv s' := by
  have key : ∀ j' p', s'.pcs[j']? = some p' → p' ≠ .idle → j' = j ∧ q = p' := by
    intro j' p' hp' hne
    rw [hpcs, List.getElem?_set] at hp'
    split at hp'
    next hjj' =>  -- `j' = j`
      split at hp' <;> cases hp'
      exact ⟨hjj'.symm, rfl⟩
    next hjj' =>  -- `j' ≠ j`: not being idle it would hold the lock
      have hlock : s.lock = some j' := hI.held j' p' hp' hne
      rcases hl with e | e <;> simp [e, hjj'] at hlock
  refine { held := fun j' p' hp' hne => ?_, snapped := fun j' b hp' => ?_, writing := fun j' b hp' => ?_,
           wrote := fun j' b hp' => ?_, disk := disk }
  · obtain ⟨rfl, rfl⟩ := key j' p' hp' hne
    exact held hne
  · obtain ⟨rfl, e⟩ := key j' _ hp' nofun
    exact snapped b e
  · obtain ⟨rfl, e⟩ := key j' _ hp' nofun
    exact writing b e
  · obtain ⟨rfl, e⟩ := key j' _ hp' nofun
    exact wrote b e

theorem inv_step {s s' : St} {a : Step} (hI : Inv s) (h : step true s a = some s') : Inv s' := by
  cases a with
  | begin_ j b =>
    obtain ⟨⟨_, hl⟩, rfl⟩ := step_begin h
    exact inv_set hI (.inl (hl rfl)) rfl
      (held := fun _ => rfl)  -- with the mutex, `begin_` sets the lock to `some j`
      (snapped := fun _ e => by cases e; exact List.mem_cons_self)
      (writing := nofun)
      (wrote := nofun)
      (disk := hI.disk.imp id fun ⟨b', hd, hb'⟩ => ⟨b', hd, List.mem_cons_of_mem _ hb'⟩)
  | trunc j =>
    obtain ⟨b, hp, rfl⟩ := step_trunc h
    have hl := hI.held j _ hp nofun
    exact inv_set hI (.inr hl) rfl
      (held := fun _ => hl)
      (snapped := nofun)
      (writing := fun _ e => by cases e; exact ⟨rfl, hI.snapped j b hp⟩)
      (wrote := nofun)
      (disk := hI.disk)
  | finish j =>
    obtain ⟨b, hp, rfl⟩ := step_finish h
    have hl := hI.held j _ hp nofun
    -- the temp file is still this flusher's own torn one (nobody truncated it since), so `finish` makes it `full b`
    have ⟨htmp, hsn⟩ := hI.writing j b hp
    exact inv_set hI (.inr hl) rfl
      (held := fun _ => hl)
      (snapped := nofun)
      (writing := nofun)
      (wrote := fun _ e => by cases e; exact ⟨if_pos htmp, hsn⟩)
      (disk := hI.disk)
  | rename j =>
    obtain ⟨b, hp, rfl⟩ := step_rename h
    have hl := hI.held j _ hp nofun
    have ⟨htmp, hsn⟩ := hI.wrote j b hp
    -- the temp file is this flusher's complete one
    rw [htmp]
    exact inv_set hI (.inr hl) rfl
      (held := fun _ => hl)
      (snapped := nofun)
      (writing := nofun)
      (wrote := nofun)
      (disk := .inr ⟨b, rfl, hsn⟩)
  | end_ j =>
    obtain ⟨hp, rfl⟩ := step_end h
    exact inv_set hI (.inr (hI.held j _ hp nofun)) rfl
      (held := fun hne => absurd rfl hne)
      (snapped := nofun)
      (writing := nofun)
      (wrote := nofun)
      (disk := hI.disk)
  | kill =>
    cases step_kill h
    exact inv_of_idle (fun _ hp => by obtain ⟨_, _, rfl⟩ := List.mem_map.1 hp; rfl) hI.disk

theorem inv_run {s s' : St} {as : List Step} (hI : Inv s) (h : run true s as = some s') : Inv s' :=
  run_keeps (nil := fun _ => rfl) (cons := fun s a as => by rw [run]; cases step true s a <;> rfl)
    (hstep := fun _ _ _ _ hI h => inv_step hI h) hI h

end TV.Flushers
