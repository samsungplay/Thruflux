import ThruVerif.Model.Geometry
/-! Chunk geometry on `Nat` (`Model/Geometry`): which chunks exist, how long they are, that they tile the file. -/
namespace TV.Geo

theorem chunkTotal_eq (size : Nat) {c : Nat} (hc : 0 < c) : chunkTotal size c = (size + c - 1) / c := by
  unfold chunkTotal
  split
  · omega
  · split
    · subst size; exact (Nat.div_eq_of_lt (by omega)).symm
    · rfl

/-- chunk `i` exists exactly when its offset lies inside the file -/
theorem lt_chunkTotal {size c i : Nat} (hc : 0 < c) : i < chunkTotal size c ↔ i * c < size := by
  rw [chunkTotal_eq size hc, Nat.lt_iff_add_one_le, Nat.le_div_iff_mul_le hc, Nat.add_mul]
  omega

theorem lenAt_eq_min (size : Nat) {c : Nat} (i : Nat) (hc : 0 < c) : lenAt size c i = min c (size - i * c) := by
  rw [lenAt, if_neg (Nat.ne_of_gt hc)]
  split
  · rw [Nat.sub_eq_zero_of_le ‹i * c ≥ size›, Nat.min_zero]
  · split
    · rw [Nat.min_eq_right (Nat.le_of_lt ‹size - i * c < c›)]
    · rw [Nat.min_eq_left (Nat.le_of_not_lt ‹¬ size - i * c < c›)]

theorem total_bounds (size c : Nat) (hc : 0 < c) (hs : 0 < size) :
    (chunkTotal size c - 1) * c < size ∧ size ≤ chunkTotal size c * c ∧ 0 < chunkTotal size c := by
  have h0 : 0 < chunkTotal size c := (lt_chunkTotal hc).2 (by omega)
  have h1 : (chunkTotal size c - 1) * c < size := (lt_chunkTotal hc).1 (by omega)
  have h2 : ¬ chunkTotal size c * c < size := mt (lt_chunkTotal hc).2 (Nat.lt_irrefl _)
  exact ⟨h1, by omega, h0⟩

theorem lenAt_spec (size c i : Nat) (hc : 0 < c) (hi : i < chunkTotal size c) :
    0 < lenAt size c i ∧ lenAt size c i ≤ c ∧
    i * c + lenAt size c i = (if i + 1 < chunkTotal size c then (i + 1) * c else size) := by
  simp only [lt_chunkTotal hc, Nat.add_mul, Nat.one_mul] at hi ⊢
  rw [lenAt_eq_min size i hc]
  -- now hi : i * c < size and the length is min c (size - i * c): linear in i * c, c, size on either branch
  split <;> omega

theorem lenAt_oob (size c i : Nat) (hc : 0 < c) (hi : chunkTotal size c ≤ i) : lenAt size c i = 0 := by
  rw [lenAt, if_neg (Nat.ne_of_gt hc), if_pos]
  exact Nat.le_of_not_lt (mt (lt_chunkTotal hc).2 (Nat.not_lt.2 hi))

/-- prefix sums: the first k chunks cover exactly [0, min(k*c, size)). -/
theorem sum_prefix (size c : Nat) (hc : 0 < c) :
    ∀ k, k ≤ chunkTotal size c →
      ((List.range k).map (lenAt size c)).sum = (if k < chunkTotal size c then k * c else size) := by
  intro k
  induction k with
  | zero =>
    intro _
    -- the sum is 0; where there is no chunk at all, size is 0 too
    have : 0 < chunkTotal size c ↔ 0 * c < size := lt_chunkTotal hc
    simp only [List.range_zero, List.map_nil, List.sum_nil]
    split <;> omega
  | succ k ih =>
    intro (hk : k < chunkTotal size c)
    rw [List.range_succ, List.map_append, List.sum_append, ih (Nat.le_of_lt hk), if_pos hk]
    exact (lenAt_spec size c k hc hk).2.2

theorem tiles (size c : Nat) (hc : 0 < c) :
    ((List.range (chunkTotal size c)).map (lenAt size c)).sum = size := by
  rw [sum_prefix size c hc _ (Nat.le_refl _), if_neg (Nat.lt_irrefl _)]

end TV.Geo
