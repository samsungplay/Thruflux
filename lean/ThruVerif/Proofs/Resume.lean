import ThruVerif.Model.Resume

/-! Lemmas about the resume negotiation model (`Model/Resume`). -/
namespace TV.Resume

theorem highest_some {b : List Bool} {n h : Nat} (e : highest b n = some h) :
    bit b h = true ∧ h < n ∧ ∀ i, h < i → i < n → bit b i = false := by
  fun_induction highest b n with
  | case1 => cases e
  | case2 n hb =>  -- bit `n` is set
    cases e
    exact ⟨hb, Nat.lt_succ_self _, fun i h1 h2 => by omega⟩
  | case3 n hb ih =>  -- bit `n` is clear
    obtain ⟨hset, hlt, hclear⟩ := ih e
    refine ⟨hset, Nat.lt_succ_of_lt hlt, fun i hi hin => ?_⟩
    by_cases hn : i = n
    · subst hn; exact Bool.eq_false_iff.2 hb
    · exact hclear i hi (by omega)

theorem highest_none {b : List Bool} {n : Nat} (e : highest b n = none) : ∀ i, i < n → bit b i = false := by
  fun_induction highest b n with
  | case1 => exact fun i hi => absurd hi i.not_lt_zero
  | case2 => cases e
  | case3 n hb ih =>  -- bit `n` is clear
    intro i hi
    by_cases hn : i = n
    · subst hn; exact Bool.eq_false_iff.2 hb
    · exact ih e i (by omega)

/-- all chunks recorded: every bit is set -/
theorem all_set_of_count {b : List Bool} (h : countSet b ≥ b.length) : ∀ i, i < b.length → bit b i = true := by
  intro i hi
  -- filtering removed nothing, so every element passes the filter
  have hall : ∀ a ∈ b, id a = true := List.length_filter_eq_length_iff.1 (Nat.le_antisymm (List.length_filter_le _ _) h)
  simpa [bit, hi] using hall b[i] (List.getElem_mem hi)

/-- stepping back by the verify tail, as `applyResumeInfo` spells it, is truncated subtraction -/
theorem back_eq_sub (t f : Nat) : (if t > 0 ∧ f > 0 then if t ≥ f then 0 else f - t else f) = f - t := by
  split
  · split <;> omega
  · omega

/-- the reported hash is unknown (it could not be computed in time): the highest recorded chunk is at or above `forceSendFrom`, so
the regular pass sends it - whatever the tail. Only the last adjustment of `plan` matters. -/
theorem force_le_unknown {c : Cfg} {info : Info} (hk : info.hashKnown = false) (hv : info.lastVerified < info.total) :
    (plan c info).forceFrom ≤ info.lastVerified := by
  unfold plan
  extract_lets total v f0 hashUnknown verifyNeeded allComplete f1 f2 tail minForce f f3
  have h3 : f3 = if v < total ∧ f > v then v else f := if_pos ⟨by simp [hashUnknown, hk], Nat.zero_lt_of_lt hv⟩
  show f3 ≤ v
  rw [h3]
  split <;> omega

/-- the reported hash is known: `forceSendFrom` lies at most the tail below the highest recorded chunk + 1 (exactly the tail
below, or not below at all when every chunk is recorded) -/
theorem force_known {c : Cfg} {info : Info} (hk : info.hashKnown = true) (hv : info.lastVerified < info.total) :
    (plan c info).forceFrom + c.tail ≥ info.lastVerified + 1 := by
  unfold plan
  extract_lets total v f0 hashUnknown verifyNeeded allComplete f1 f2 tail minForce f f3
  have h0 : f0 = v + 1 := if_pos hv
  have h1 : f0 - c.tail ≤ f1 ∧ f1 ≤ f0 := by simp only [f1, back_eq_sub]; split <;> omega
  have h2 : f2 = f1 := if_neg (by omega)
  have h3 : f3 = f2 := if_neg (by simp [hashUnknown, hk])
  show f3 + c.tail ≥ v + 1
  omega

theorem verifyNeeded_eq (c : Cfg) (info : Info) :
    (plan c info).verifyNeeded = (c.verify && decide (info.lastVerified < info.total) && c.hashOn && info.hashKnown) := by
  simp only [plan, Bool.not_not]

theorem sent_iff (info : Info) (p : Plan) (i : Nat) :
    sent info p i = true ↔ i < info.total ∧
      (bit info.bitmap i = false ∨ p.forceFrom ≤ i ∨ p.verifyNeeded = true ∧ info.hashGood = false ∧ i = info.lastVerified) := by
  simp [sent, skipped, resend, and_assoc, or_assoc]

end TV.Resume
