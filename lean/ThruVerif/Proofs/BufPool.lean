import ThruVerif.Model.BufPool
import ThruVerif.Proofs.Step

/-! Invariant of the buffer-ownership model (`Model/BufPool`) when a cancelled read is waited for. -/
namespace TV.BufPool

/-- the jobs that may still write into the buffer -/
def expectedPending (s : St) : List Nat :=
  match s.holder with
  | some (k, .reading) => if s.ownFinished then [] else [k]
  | _ => []

structure Inv (s : St) : Prop where
  pend : s.pendingIds = expectedPending s
  pool : s.inPool = true ↔ s.holder = none
  own : ∀ k, s.holder = some (k, .reading) → s.ownFinished = true → s.content = some k
  got : ∀ k, s.holder = some (k, .gotResult) → s.content = some k
  fin : s.ownFinished = true → ∃ k, s.holder = some (k, .reading)
  ok : s.wrong = 0

theorem inv_init : Inv init := by
  constructor <;> simp [init, expectedPending]

/-- In every case the closing `simp` checks the six fields on the state that `step` writes out: most hold because the
holder's new phase matches no premise, the comments say what the others rest on. -/
theorem inv_step {s s' : St} {a : Step} (hI : Inv s) (h : step true s a = some s') : Inv s' := by
  obtain ⟨hp, hpool, hown, hgot, hfin, hok⟩ := hI
  cases a with
  | take =>
    simp only [step] at h
    split at h <;> cases h
    rename_i hc
    -- the buffer has no holder (`hc`), so no read targets it (`pend`): the taker's job is the only one pending
    constructor <;> simp [expectedPending, *]
  | runRead k =>
    simp only [step] at h
    split at h <;> cases h
    rename_i hm
    -- the only job that can be pending is the holder's own unfinished one (`pend`): it is `k`, whose bytes the buffer now holds
    rw [hp] at hm
    unfold expectedPending at hm hp
    split at hm
    · -- the holder is reading, its job is some `k0`
      split at hm
      · cases hm  -- its own read has finished: nothing is pending
      · -- pending is `[k0]`, so `k = k0`
        cases List.mem_singleton.mp hm
        constructor <;> simp [expectedPending, *]
    · cases hm  -- no holder in the reading phase: nothing is pending
  | result =>
    simp only [step] at h
    split at h
    · rename_i k hh
      split at h <;> cases h
      -- the finished read was the holder's own, so the buffer holds its bytes (`own`)
      have hc := hown k hh ‹s.ownFinished = true›
      constructor <;> simp [expectedPending, *]
    · cases h
  | sum =>
    simp only [step] at h
    split at h <;> cases h
    rename_i k hh
    -- the checksum is taken over what the holder's own read wrote (`got`): `wrong` stays 0
    have hc := hgot k hh
    -- past the reading phase no result is waiting (`fin`), here and in `put`
    have hf : s.ownFinished = false := by simpa [hh] using hfin
    constructor <;> simp [expectedPending, *]
  | put =>
    simp only [step] at h
    split at h <;> cases h
    rename_i k hh
    have hf : s.ownFinished = false := by simpa [hh] using hfin
    constructor <;> simp [expectedPending, *]
  | cancel =>
    simp only [step] at h
    split at h
    · simp only [↓reduceIte] at h
      -- the cancelled holder leaves only once its read has finished: nothing is pending when the buffer is back in the pool
      split at h <;> cases h
      constructor <;> simp [expectedPending, *]
    · cases h

theorem inv_run {s s' : St} {as : List Step} (hI : Inv s) (h : run true s as = some s') : Inv s' :=
  run_keeps (nil := fun _ => rfl) (cons := fun s a as => by rw [run]; cases step true s a <;> rfl)
    (hstep := fun _ _ _ _ hI h => inv_step hI h) hI h

end TV.BufPool
