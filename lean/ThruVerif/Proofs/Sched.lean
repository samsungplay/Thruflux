import ThruVerif.Model.Sched
/-! What `HybridScheduler.Next` (`Model/Sched`) returns: lemmas for C03 (liveness of the scheduler) and C17 (keys handed out once). -/
namespace TV.Sched

theorem argmin_mem {fs : List F} {f : F} (h : argmin fs = some f) : f ∈ fs := by
  induction fs generalizing f with
  | nil => simp [argmin] at h
  | cons g gs ih =>
    simp only [argmin] at h
    split at h
    · cases h; simp
    · rename_i m hm
      split at h
      · cases h; simp [ih hm]
      · cases h; simp

theorem argmin_some {fs : List F} (h : fs ≠ []) : (argmin fs).isSome = true := by
  cases fs with
  | nil => exact absurd rfl h
  | cons g gs =>
    simp only [argmin]
    split
    · rfl
    · split <;> rfl

theorem mem_pending {cfg : Cfg} {fs : List F} {f : F} :
    f ∈ pendingSmall cfg fs ∨ f ∈ pendingWeighted cfg fs ↔ f ∈ fs ∧ f.started = false := by
  simp only [pendingSmall, pendingWeighted, List.mem_filter, Bool.and_eq_true, Bool.not_eq_true']
  cases isSmall cfg f <;> simp

theorem next_eq (cfg : Cfg) (fs : List F) (pick : Nat) :
    next cfg fs pick =
      (if activeSmall cfg fs < cfg.smallSlots ∧ pendingSmall cfg fs ≠ [] then argmin (pendingSmall cfg fs)
       else (pendingWeighted cfg fs)[pick % (pendingWeighted cfg fs).length]?).map (fun f => (f.key, markStarted f.key fs)) := by
  unfold next
  simp only
  split <;> split <;> simp [*]

theorem next_returns_pending {cfg : Cfg} {fs : List F} {pick k : Nat} {fs' : List F}
    (h : next cfg fs pick = some (k, fs')) :
    (∃ f ∈ fs, f.key = k ∧ f.started = false) ∧ fs' = markStarted k fs := by
  rw [next_eq] at h
  obtain ⟨f, hf, he⟩ := Option.map_eq_some_iff.mp h
  cases he
  have hm : f ∈ fs ∧ f.started = false := mem_pending.mp (by
    split at hf
    · exact .inl (argmin_mem hf)
    · exact .inr (List.mem_of_getElem? hf))
  exact ⟨⟨f, hm.1, rfl, hm.2⟩, rfl⟩

theorem markStarted_started (k : Nat) (fs : List F) : ∀ f ∈ markStarted k fs, f.key = k → f.started = true := by
  intro f hf hk
  simp only [markStarted, List.mem_map] at hf
  obtain ⟨g, _, rfl⟩ := hf
  split
  · rfl
  · rename_i hne; split at hk <;> simp_all    -- `g` is unchanged, so its key is not `k`, against `hk`

theorem next_spec (cfg : Cfg) (fs : List F) (pick k : Nat) (fs' : List F) (h : next cfg fs pick = some (k, fs')) :
    (∃ f ∈ fs, f.key = k ∧ f.started = false) ∧ (∀ f ∈ fs', f.key = k → f.started = true) ∧
    (∀ pick' k' fs'', next cfg fs' pick' = some (k', fs'') → (∃ f ∈ fs', f.key = k' ∧ f.started = false)) := by
  obtain ⟨hpending, rfl⟩ := next_returns_pending h
  exact ⟨hpending, markStarted_started k fs, fun _ _ _ h' => (next_returns_pending h').1⟩

/-- consecutive `next` calls never return the same key -/
theorem next_ne (cfg : Cfg) (fs : List F) (p p' k k' : Nat) (fs' fs'' : List F)
    (h : next cfg fs p = some (k, fs')) (h' : next cfg fs' p' = some (k', fs'')) : k ≠ k' := by
  obtain ⟨_, h2, h3⟩ := next_spec cfg fs p k fs' h
  obtain ⟨f, hf, hk, hs⟩ := h3 p' k' fs'' h'
  intro he
  have := h2 f hf (hk.trans he.symm)
  simp [this] at hs

theorem next_none {cfg : Cfg} {fs : List F} {pick : Nat} (h : next cfg fs pick = none) :
    pendingWeighted cfg fs = [] ∧ (pendingSmall cfg fs = [] ∨ activeSmall cfg fs ≥ cfg.smallSlots) := by
  rw [next_eq, Option.map_eq_none_iff] at h
  split at h
  · rename_i hc                   -- small branch: the list is non-empty, so `argmin` returns something
    have := argmin_some hc.2
    rw [h] at this
    cases this
  · rename_i hc                   -- weighted branch: the lookup at `pick % length` failed
    constructor
    · -- that only happens in the empty list: in a non-empty one `pick % length` is an index
      have hle : (pendingWeighted cfg fs).length ≤ pick % (pendingWeighted cfg fs).length := List.getElem?_eq_none_iff.mp h
      apply List.eq_nil_iff_length_eq_zero.mpr
      exact Nat.eq_zero_of_not_pos fun hpos => Nat.not_le_of_lt (Nat.mod_lt pick hpos) hle
    · -- pending small files and a free slot would have taken the small branch (`hc`)
      by_cases hps : pendingSmall cfg fs = []
      · exact .inl hps
      · exact .inr (Nat.le_of_not_lt fun hlt => hc ⟨hlt, hps⟩)

theorem next_isSome {cfg : Cfg} {fs : List F} {f : F} (pick : Nat) (hf : f ∈ fs) (hp : f.started = false)
    (hfree : activeSmall cfg fs < cfg.smallSlots) : (next cfg fs pick).isSome = true := by
  cases hn : next cfg fs pick with
  | some _ => rfl
  | none =>
    obtain ⟨hw, hs⟩ := next_none hn
    have := (mem_pending (cfg := cfg)).mpr ⟨hf, hp⟩
    rw [hw, hs.resolve_right (Nat.not_le_of_lt hfree)] at this
    exact (this.elim List.not_mem_nil List.not_mem_nil).elim

theorem next_progress (cfg : Cfg) (fs : List F) (pick : Nat) (hc : 1 ≤ cfg.smallSlots)
    (hnone : ∀ f ∈ fs, f.started = false) (hne : fs ≠ []) : (next cfg fs pick).isSome = true := by
  obtain ⟨f, hf⟩ := List.exists_mem_of_ne_nil fs hne
  have : activeSmall cfg fs = 0 := by
    rw [activeSmall, List.filter_eq_nil_iff.mpr (fun f hf => by simp [hnone f hf]), List.length_nil]
  exact next_isSome pick hf (hnone f hf) (by omega)

end TV.Sched
