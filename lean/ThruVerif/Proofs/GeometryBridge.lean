import ThruVerif.Gen.Geometry
import ThruVerif.Proofs.Geometry
/-!
Bridge lemmas for C19: on the property's domain the *regenerated* Go expressions (with every
`int64`/`uint32` conversion in place) equal the plain `Nat` arithmetic the tiling lemmas are about.
This is where "no 64-bit overflow, no 32-bit truncation" is discharged rather than assumed: each
conversion is removed by `wrapS64_id` / `wrapU_id`, whose range conditions `omega` proves from the domain.
-/
namespace TV.GoInt

theorem wrapU_id {n : Nat} {x : Int} (h0 : 0 ≤ x) (h1 : x < 2 ^ n) : wrapU n x = x :=
  Int.emod_eq_of_lt h0 h1

theorem wrapS64_id {x : Int} (h0 : 0 ≤ x) (h1 : x < 2 ^ 63) : wrapS 64 x = x := by
  simp only [wrapS, Int.emod_eq_of_lt h0 (show x < 2 ^ 64 by omega)]
  exact if_pos h1

/-- the form the bridges use: the operand is the cast of a natural number, so only its upper bound is to show -/
theorem wrapS64_nat {n : Nat} (h : n < 2 ^ 63) : wrapS 64 (n : Int) = n :=
  wrapS64_id (Int.natCast_nonneg n) (Int.ofNat_lt.2 h)

end TV.GoInt

namespace TV.GeoBridge
open TV.GoInt

/-- the property's domain: sizes up to 10 TiB, chunk 1 .. 2^32-1, chunk count fits the 32-bit wire field -/
structure Dom (size c : Nat) : Prop where
  hs : size ≤ 10 * 2 ^ 40
  hc0 : 0 < c
  hc1 : c < 2 ^ 32
  hn : TV.Geo.chunkTotal size c < 2 ^ 32

theorem ceil_bridge (size c : Nat) (h : Dom size c) :
    wrapU 32 (wrapS 64 (Int.tdiv (wrapS 64 (wrapS 64 ((size : Int) + wrapS 64 (c : Int)) - 1)) (wrapS 64 (c : Int))))
      = (TV.Geo.chunkTotal size c : Int) := by
  obtain ⟨hs, hc0, hc1, hn⟩ := h
  rw [TV.Geo.chunkTotal_eq size hc0] at hn ⊢
  have e : ((size + c : Nat) : Int) - 1 = ((size + c - 1 : Nat) : Int) := by omega
  -- passed through int64: c, size + c, size + c - 1, all at most 10 TiB + 2^32 < 2^63, and the quotient, below 2^32 by hn
  simp (disch := omega) only [wrapS64_nat, ← Int.natCast_add, e, ← Int.ofNat_tdiv]
  -- uint32 of the quotient: exact by hn
  exact wrapU_id (Int.natCast_nonneg _) (Int.ofNat_lt.2 hn)

/-- `chunkTotal` as compiled from the current source = ceiling division, on the domain. -/
theorem chunkTotal_bridge (size c : Nat) (h : Dom size c) :
    TV.Gen.chunkTotal (size : Int) (c : Int) = (TV.Geo.chunkTotal size c : Int) := by
  have hc0 := h.hc0
  unfold TV.Gen.chunkTotal
  simp only [decide_eq_true_eq]
  rw [if_neg (by omega)]  -- the guard chunkSize == 0
  split
  · -- the guard fileSize <= 0
    have : size = 0 := by omega
    simp [this, TV.Geo.chunkTotal]
  · exact ceil_bridge size c h

theorem recvTotal_bridge (size c : Nat) (h : Dom size c) :
    TV.Gen.recvTotal (size : Int) (c : Int) = (TV.Geo.chunkTotal size c : Int) := by
  have hs := h.hs
  -- the expression of ceil_bridge with one more conversion, int64(fileSize)
  rw [← ceil_bridge size c h, TV.Gen.recvTotal, wrapS64_nat (n := size) (by omega)]

theorem sidecarTotal_bridge (size c : Nat) (h : Dom size c) :
    TV.Gen.sidecarTotalRaw (size : Int) (c : Int) = (TV.Geo.chunkTotal size c : Int) :=
  ceil_bridge size c h

theorem offset_bridge (i c : Nat) (hi : i < 2 ^ 32) (hc : c < 2 ^ 32) (hp : i * c < 2 ^ 63) :
    wrapS 64 (wrapS 64 (i : Int) * wrapS 64 (c : Int)) = ((i * c : Nat) : Int) := by
  simp (disch := omega) only [wrapS64_nat, ← Int.natCast_mul]

theorem recvOffset_bridge (i c : Nat) (hi : i < 2 ^ 32) (hc : c < 2 ^ 32) (hp : i * c < 2 ^ 63) :
    TV.Gen.recvOffset (i : Int) (c : Int) = ((i * c : Nat) : Int) :=
  offset_bridge i c hi hc hp

theorem sendOffset_bridge (i c : Nat) (hi : i < 2 ^ 32) (hc : c < 2 ^ 32) (hp : i * c < 2 ^ 63) :
    TV.Gen.sendOffset (i : Int) (c : Int) = ((i * c : Nat) : Int) :=
  offset_bridge i c hi hc hp

theorem hashOffset_bridge (i c : Nat) (hi : i < 2 ^ 32) (hc : c < 2 ^ 32) (hp : i * c < 2 ^ 63) :
    TV.Gen.hashOffset (i : Int) (c : Int) = ((i * c : Nat) : Int) :=
  offset_bridge i c hi hc hp

/-- `chunkSizeForIndex` as compiled from the current source = `lenAt`, whenever `idx*chunk` does not
    overflow (always the case for indices the protocol uses: `idx < total`). -/
theorem lenAt_bridge (size c i : Nat) (h : Dom size c) (hi : i < 2 ^ 32) (hp : i * c < 2 ^ 63) :
    TV.Gen.chunkSizeForIndex (size : Int) (c : Int) (i : Int) = (TV.Geo.lenAt size c i : Int) := by
  obtain ⟨hs, hc0, hc1, -⟩ := h
  -- the two functions branch alike. The conversions in front of the branches are of i, c and i * c, naturals
  -- below 2^63 by hi, hc1, hp; the two further down are exact only under their branch condition
  unfold TV.Gen.chunkSizeForIndex TV.Geo.lenAt
  simp (disch := omega) only [decide_eq_true_eq, wrapS64_nat, ← Int.natCast_mul]
  rw [if_neg (Int.natCast_ne_zero.2 (Nat.ne_of_gt hc0)), if_neg (Nat.ne_of_gt hc0)]
  by_cases hge : i * c ≥ size
  · rw [if_pos hge, if_pos (Int.ofNat_le.2 hge)]
    rfl
  · -- int64(fileSize - off) is exact: the offset lies inside the file
    rw [if_neg hge, if_neg (mt Int.ofNat_le.1 hge), ← Int.ofNat_sub (Nat.le_of_not_ge hge), wrapS64_nat (by omega)]
    simp only [Int.ofNat_lt]
    split
    · -- the short last chunk: uint32(rem) is exact because rem < chunk < 2^32
      exact wrapU_id (Int.natCast_nonneg _) (by omega)
    · rfl

end TV.GeoBridge
