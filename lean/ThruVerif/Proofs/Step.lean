/-! Runs of a transition system given by a partial step function `step : σ → α → Option σ` (`run` is any function with the two equations
of the fold of `step` over a list of actions): what every step keeps holds at the end, and a run is no longer than a measure falls.
Also the sum of a list of numbers after one of them changed. -/
namespace TV

theorem run_keeps {σ α : Type} {step : σ → α → Option σ} {run : σ → List α → Option σ}
    (nil : ∀ s, run s [] = some s) (cons : ∀ s a as, run s (a :: as) = (step s a).bind (run · as))
    {P : σ → Prop} {s s' : σ} {as : List α} (hstep : ∀ a ∈ as, ∀ s s', P s → step s a = some s' → P s')
    (hs : P s) (hr : run s as = some s') : P s' := by
  induction as generalizing s with
  | nil =>
    rw [nil, Option.some.injEq] at hr
    exact hr ▸ hs
  | cons a as ih =>
    rw [cons] at hr
    obtain ⟨s1, h1, hr⟩ := Option.bind_eq_some_iff.mp hr
    exact ih (fun b hb => hstep b (List.mem_cons_of_mem _ hb)) (hstep a List.mem_cons_self s s1 hs h1) hr

theorem run_length_le_of {σ α : Type} {step : σ → α → Option σ} {run : σ → List α → Option σ}
    (nil : ∀ s, run s [] = some s) (cons : ∀ s a as, run s (a :: as) = (step s a).bind (run · as))
    {P : σ → Prop} {μ : σ → Nat} (hstep : ∀ s a s', P s → step s a = some s' → P s' ∧ μ s' < μ s)
    {s s' : σ} (as : List α) (hs : P s) (hr : run s as = some s') : P s' ∧ as.length + μ s' ≤ μ s := by
  induction as generalizing s with
  | nil =>
    rw [nil, Option.some.injEq] at hr
    exact hr ▸ ⟨hs, Nat.le_of_eq (Nat.zero_add _)⟩
  | cons a as ih =>
    rw [cons] at hr
    obtain ⟨s1, h1, hr⟩ := Option.bind_eq_some_iff.mp hr
    obtain ⟨hp, hm⟩ := hstep s a s1 hs h1
    obtain ⟨hp', hm'⟩ := ih hp hr
    exact ⟨hp', by rw [List.length_cons]; omega⟩

theorem sum_set (l : List Nat) (i v : Nat) (h : i < l.length) : (l.set i v).sum + l[i]?.getD 0 = l.sum + v := by
  induction l generalizing i with
  | nil => cases h
  | cons a as ih =>
    cases i with
    | zero => simp only [List.set_cons_zero, List.sum_cons, List.getElem?_cons_zero, Option.getD_some]; omega
    | succ k =>
      have := ih k (Nat.lt_of_succ_lt_succ h)
      simp only [List.set_cons_succ, List.sum_cons, List.getElem?_cons_succ]
      omega

end TV
