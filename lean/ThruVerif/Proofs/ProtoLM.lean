import ThruVerif.Model.ProtoLM
/-!
Invariant, progress and decreasing measure of the manifest-level liveness abstraction (`Model/ProtoLM`), in three layers; the first
two also carry `Proofs/ProtoLMC`, the first the one-file abstraction in `Props/C03`.

* `FileSt`: what the protocol does with a file involves seven numbers and flags of that file and nothing else. Its invariant `Ok` and
  its `weight` are checked on those, step by step.
* `Files`: a state with stream visibility and accepting erased. `Model/ProtoLM` and `Model/ProtoLMC` project onto it (`files`); a
  step of either acts on the projection on one file (`Files.Inv.change`), on the two `End` flags, or not at all.
* the model: what is left to check is which streams are visible and accepted.
-/
namespace TV.ProtoLM

@[simp] theorem upd_same {α : Type} (f : Nat → α) (i : Nat) (v : α) : upd f i v i = v := if_pos rfl
theorem upd_other {α : Type} (f : Nat → α) (i j : Nat) (v : α) (h : j ≠ i) : upd f i v j = f j := if_neg h

theorem upd_true_iff {p : Nat → Bool} {i j : Nat} : upd p i true j = true ↔ j = i ∨ p j = true := by
  by_cases h : j = i
  · simp [upd, h]
  · simp [upd, h]

theorem b2n_true : b2n true = 1 := rfl
theorem b2n_false : b2n false = 0 := rfl
theorem b2n_le (b : Bool) : b2n b ≤ 1 := by cases b <;> simp [b2n]

theorem sub_succ_add_one {a n : Nat} (h : a < n) : n - (a + 1) + 1 = n - a := by omega

theorem sumN_congr {k : Nat} {g h : Nat → Nat} (e : ∀ i, i < k → g i = h i) : sumN k g = sumN k h := by
  induction k with
  | zero => rfl
  | succ k ih => rw [sumN, sumN, ih (fun i hi => e i (Nat.lt_succ_of_lt hi)), e k (Nat.lt_succ_self k)]

/-- one summand changes; stated without subtraction -/
theorem sum_change {k : Nat} {g g' : Nat → Nat} {f : Nat} (hf : f < k) (h : ∀ i, i ≠ f → g' i = g i) :
    sumN k g' + g f = sumN k g + g' f := by
  induction k with
  | zero => cases hf
  | succ k ih =>
    simp only [sumN]
    rcases Nat.eq_or_lt_of_le (Nat.le_of_lt_succ hf) with rfl | hfk
    · rw [sumN_congr (fun i hi => h i (Nat.ne_of_lt hi))]
      omega
    · rw [h k (Nat.ne_of_gt hfk)]
      have := ih hfk
      omega

theorem sumN_upd (k : Nat) (g : Nat → Nat) (i : Nat) (v : Nat) (hi : i < k) : sumN k (upd g i v) + g i = sumN k g + v := by
  rw [sum_change hi (fun j hj => upd_other g i j v hj), upd_same]

theorem sumN_add (k : Nat) (g h : Nat → Nat) : sumN k (fun i => g i + h i) = sumN k g + sumN k h := by
  induction k with
  | zero => rfl
  | succ k ih => simp only [sumN, ih]; omega

theorem sumN_pos {k : Nat} {g : Nat → Nat} (h : 0 < sumN k g) : ∃ i, i < k ∧ 0 < g i := by
  induction k with
  | zero => cases h
  | succ k ih =>
    by_cases hk : 0 < g k
    · exact ⟨k, Nat.lt_succ_self k, hk⟩
    · obtain ⟨i, hi, hp⟩ := ih (by simp only [sumN] at h; omega)
      exact ⟨i, Nat.lt_succ_of_lt hi, hp⟩

theorem sumN_zero {k : Nat} {g : Nat → Nat} (h : ∀ i, i < k → g i = 0) : sumN k g = 0 := by
  induction k with
  | zero => rfl
  | succ k ih => rw [sumN, ih (fun i hi => h i (Nat.lt_succ_of_lt hi)), h k (Nat.lt_succ_self k)]

/-- the models' `step`s write this out as nested `upd`s; their `step_spec`s rely on `bufSet` unfolding to that -/
def bufSet (buf : Nat → Nat → Nat) (w f v : Nat) : Nat → Nat → Nat := upd buf w (upd (buf w) f v)

theorem bufSet_same (buf : Nat → Nat → Nat) (w f v : Nat) : bufSet buf w f v w f = v := by simp [bufSet]
theorem bufSet_other (buf : Nat → Nat → Nat) (w f v w' f' : Nat) (h : w' ≠ w ∨ f' ≠ f) :
    bufSet buf w f v w' f' = buf w' f' := by
  unfold bufSet
  by_cases hw : w' = w
  · subst hw
    rw [upd_same, upd_other _ _ _ _ (h.resolve_left (fun h => h rfl))]
  · rw [upd_other _ _ _ _ hw]

theorem bufSet_pos {buf : Nat → Nat → Nat} {P : Nat → Prop} (h : ∀ w f, 0 < buf w f → P w) {w : Nat} (hw : P w) {f v w' f' : Nat}
    (hb : 0 < bufSet buf w f v w' f') : P w' := by
  by_cases hw' : w' = w
  · exact hw' ▸ hw
  · rw [bufSet_other _ _ _ _ _ _ (Or.inl hw')] at hb
    exact h w' f' hb

theorem inflight_bufSet (n : Nat) (buf : Nat → Nat → Nat) (w f v : Nat) (hw : w < n) :
    sumN n (fun w' => bufSet buf w f v w' f) + buf w f = sumN n (fun w' => buf w' f) + v := by
  rw [sum_change (g := fun w' => buf w' f) hw (fun w' hw' => bufSet_other _ _ _ _ _ _ (Or.inl hw')), bufSet_same]

theorem inflight_bufSet_other (n : Nat) (buf : Nat → Nat → Nat) (w f v : Nat) {f' : Nat} (hf : f' ≠ f) :
    sumN n (fun w' => bufSet buf w f v w' f') = sumN n (fun w' => buf w' f') :=
  sumN_congr (fun _ _ => bufSet_other _ _ _ _ _ _ (Or.inr hf))

theorem inflight_inc (n : Nat) (buf : Nat → Nat → Nat) (w f : Nat) (hw : w < n) :
    sumN n (fun w' => bufSet buf w f (buf w f + 1) w' f) = sumN n (fun w' => buf w' f) + 1 := by
  have := inflight_bufSet n buf w f (buf w f + 1) hw
  omega

theorem inflight_dec (n : Nat) (buf : Nat → Nat → Nat) (w f : Nat) (hw : w < n) (hb : 0 < buf w f) :
    sumN n (fun w' => bufSet buf w f (buf w f - 1) w' f) + 1 = sumN n (fun w' => buf w' f) := by
  have := inflight_bufSet n buf w f (buf w f - 1) hw
  omega

theorem total_bufSet (k n : Nat) (buf : Nat → Nat → Nat) (w f v : Nat) (hf : f < k) (hw : w < n) :
    sumN k (fun g => sumN n (fun w' => bufSet buf w f v w' g)) + buf w f = sumN k (fun g => sumN n (fun w' => buf w' g)) + v := by
  have := sum_change (g := fun g => sumN n (fun w' => buf w' g)) (g' := fun g => sumN n (fun w' => bufSet buf w f v w' g)) hf
    (fun g hg => inflight_bufSet_other n buf w f v hg)
  have := inflight_bufSet n buf w f v hw
  omega

/-- one file's share of a state; `infl` frames of it are in flight -/
structure FileSt where
  toSend : Nat
  remaining : Nat
  infl : Nat
  endSent : Bool
  endRecv : Bool
  doneSent : Bool
  doneRecv : Bool

namespace FileSt

structure Ok (a : FileSt) : Prop where
  cons : a.remaining = a.toSend + a.infl
  done1 : a.doneSent = true → a.remaining = 0 ∧ a.endRecv = true
  /-- `fin` runs in every step that can make the premises true -/
  done2 : a.remaining = 0 → a.endRecv = true → a.doneSent = true
  endo : a.endRecv = true → a.endSent = true
  ends : a.endSent = true → a.toSend = 0
  dr : a.doneRecv = true → a.doneSent = true

/-- what the file still costs: two steps per chunk to hand out, one per frame in flight and per record outstanding -/
def weight (a : FileSt) : Nat := 2 * a.toSend + b2n (!a.endSent) + b2n (!a.endRecv) + b2n (!a.doneRecv) + a.infl

/-- `finalizeFile` when the last frame and `FileEnd` are both in -/
def fin (a : FileSt) : FileSt := { a with doneSent := if a.remaining = 0 ∧ a.endRecv = true then true else a.doneSent }

structure Next (a b : FileSt) : Prop where
  ok : b.Ok
  dec : b.weight + 1 = a.weight

/-- `i` is free, here and in `Ok.read`: `Files.Inv.dispatch` passes the sum over the changed buffer as it stands, and `inflight_inc` for `hi` -/
theorem Ok.dispatch {a : FileSt} (h : a.Ok) (ht : 0 < a.toSend) {i : Nat} (hi : i = a.infl + 1) :
    a.Next { a with toSend := a.toSend - 1, infl := i } where
  ok := { h with
    cons := by have := h.cons; simp only; omega
    ends := fun he => absurd (h.ends he) (Nat.ne_of_gt ht) }
  dec := by simp only [weight]; omega

theorem Ok.sendEnd {a : FileSt} (h : a.Ok) (ht : a.toSend = 0) (he : a.endSent = false) : a.Next { a with endSent := true } where
  ok := { h with endo := fun _ => rfl, ends := fun _ => ht }
  dec := by simp only [weight, he, Bool.not_true, Bool.not_false, b2n_true, b2n_false]; omega

/-- `fin` restores `done2` and breaks nothing -/
theorem fin_ok {a : FileSt} (cons : a.remaining = a.toSend + a.infl) (done1 : a.doneSent = true → a.remaining = 0 ∧ a.endRecv = true)
    (endo : a.endRecv = true → a.endSent = true) (ends : a.endSent = true → a.toSend = 0) (dr : a.doneRecv = true → a.doneSent = true) :
    a.fin.Ok ∧ a.fin.weight = a.weight := by
  unfold FileSt.fin
  split
  next hfin => exact ⟨{ cons, endo, ends, done1 := fun _ => hfin, done2 := fun _ _ => rfl, dr := fun _ => rfl }, rfl⟩
  next hfin => exact ⟨{ cons, endo, ends, done1, dr, done2 := fun h1 h2 => absurd ⟨h1, h2⟩ hfin }, rfl⟩

theorem Ok.read {a : FileSt} (h : a.Ok) {i : Nat} (hi : i + 1 = a.infl) : a.Next (fin { a with infl := i, remaining := a.remaining - 1 }) := by
  have := h.cons
  obtain ⟨hok, hw⟩ := fin_ok (a := { a with infl := i, remaining := a.remaining - 1 }) (cons := by simp only; omega)
    (done1 := fun hd => ⟨by show a.remaining - 1 = 0; rw [(h.done1 hd).1], (h.done1 hd).2⟩) (endo := h.endo) (ends := h.ends) (dr := h.dr)
  exact { ok := hok, dec := by rw [hw]; simp only [weight]; omega }

theorem Ok.recvEnd {a : FileSt} (h : a.Ok) (hs : a.endSent = true) (he : a.endRecv = false) : a.Next (fin { a with endRecv := true }) := by
  obtain ⟨hok, hw⟩ := fin_ok (a := { a with endRecv := true }) (cons := h.cons) (done1 := fun hd => ⟨(h.done1 hd).1, rfl⟩)
    (endo := fun _ => hs) (ends := h.ends) (dr := h.dr)
  exact { ok := hok, dec := by rw [hw]; simp only [weight, he, Bool.not_true, Bool.not_false, b2n_true, b2n_false]; omega }

theorem Ok.recvDone {a : FileSt} (h : a.Ok) (hs : a.doneSent = true) (hr : a.doneRecv = false) : a.Next { a with doneRecv := true } where
  ok := { h with dr := fun _ => hs }
  dec := by simp only [weight, hr, Bool.not_true, Bool.not_false, b2n_true, b2n_false]; omega

/-- each disjunct is the file's part of the guard of a step: `dispatch`, `sendEnd`, `recvEnd`, `readFrame`, `recvDone` -/
theorem Ok.enabled {a : FileSt} (h : a.Ok) :
    0 < a.toSend ∨ a.toSend = 0 ∧ a.endSent = false ∨ a.endSent = true ∧ a.endRecv = false ∨ 0 < a.infl ∨ a.doneSent = true := by
  by_cases h1 : 0 < a.toSend
  · exact .inl h1
  cases h2 : a.endSent with
  | false => exact .inr (.inl ⟨by omega, rfl⟩)
  | true =>
  cases h3 : a.endRecv with
  | false => exact .inr (.inr (.inl ⟨rfl, rfl⟩))
  | true =>
  by_cases h4 : 0 < a.infl
  · exact .inr (.inr (.inr (.inl h4)))
  · have := h.cons
    exact .inr (.inr (.inr (.inr (h.done2 (by omega) h3))))

end FileSt

/-- a state without stream visibility and accepting: every one of the `n` streams can be read -/
structure Files where
  k : Nat
  n : Nat
  toSend : Nat → Nat
  remaining : Nat → Nat
  buf : Nat → Nat → Nat
  endSent : Nat → Bool
  endRecv : Nat → Bool
  doneSent : Nat → Bool
  doneRecv : Nat → Bool
  endAllSent : Bool
  endAllRecv : Bool

namespace Files

def infl (x : Files) (f : Nat) : Nat := sumN x.n (fun w => x.buf w f)

def file (x : Files) (f : Nat) : FileSt :=
  ⟨x.toSend f, x.remaining f, x.infl f, x.endSent f, x.endRecv f, x.doneSent f, x.doneRecv f⟩

structure Inv (x : Files) : Prop where
  ok : ∀ f, f < x.k → (x.file f).Ok
  eas : x.endAllSent = true → allB x.k x.doneRecv
  ear : x.endAllRecv = true → x.endAllSent = true

def measure (x : Files) : Nat := sumN x.k (fun f => (x.file f).weight) + b2n (!x.endAllSent) + b2n (!x.endAllRecv)

structure Next (x y : Files) : Prop where
  inv : y.Inv
  dec : y.measure + 1 = x.measure

/-- a step that acts on file `f` alone -/
theorem Inv.change {x y : Files} (hi : x.Inv) {f : Nat} (hf : f < x.k) (hk : y.k = x.k) (hs : y.endAllSent = x.endAllSent)
    (hr : y.endAllRecv = x.endAllRecv) (hd : ∀ g, x.doneRecv g = true → y.doneRecv g = true) (hoff : ∀ g, g ≠ f → y.file g = x.file g)
    (hat : (x.file f).Next (y.file f)) : x.Next y := by
  refine { inv := { ok := fun g hg => ?_, eas := fun h g hg => ?_, ear := fun h => ?_ }, dec := ?_ }
  · rw [hk] at hg
    by_cases hgf : g = f
    · rw [hgf]; exact hat.ok
    · rw [hoff g hgf]; exact hi.ok g hg
  · rw [hs] at h; rw [hk] at hg
    exact hd g (hi.eas h g hg)
  · rw [hr] at h; rw [hs]
    exact hi.ear h
  · have := sum_change (g := fun g => (x.file g).weight) (g' := fun g => (y.file g).weight) hf (fun g hg => by rw [hoff g hg])
    have := hat.dec
    simp only [measure, hk, hs, hr]
    omega

/-- `finalizeFile` of `f` -/
def fin (x : Files) (f : Nat) : Files :=
  { x with doneSent := if x.remaining f = 0 ∧ x.endRecv f = true then upd x.doneSent f true else x.doneSent }

theorem file_fin (x : Files) (f : Nat) : (x.fin f).file f = (x.file f).fin := by
  unfold fin FileSt.fin file
  split
  · simp only [upd_same]; rfl
  · rfl

theorem file_fin_other (x : Files) {f g : Nat} (h : g ≠ f) : (x.fin f).file g = x.file g := by
  unfold fin file
  split
  · simp only [upd_other _ _ _ _ h]; rfl
  · rfl

/-- a step that acts on file `f` alone and then finalises it -/
theorem Inv.change_fin {x y : Files} (hi : x.Inv) {f : Nat} (hf : f < x.k) (hk : y.k = x.k) (hs : y.endAllSent = x.endAllSent)
    (hr : y.endAllRecv = x.endAllRecv) (hd : ∀ g, x.doneRecv g = true → y.doneRecv g = true) (hoff : ∀ g, g ≠ f → y.file g = x.file g)
    (hat : (x.file f).Next (y.file f).fin) : x.Next (y.fin f) :=
  hi.change hf hk hs hr hd (hoff := fun g hg => (file_fin_other y hg).trans (hoff g hg)) (hat := by rw [file_fin]; exact hat)

theorem Inv.dispatch {x : Files} (hi : x.Inv) {f w : Nat} (hf : f < x.k) (hw : w < x.n) (ht : 0 < x.toSend f) :
    x.Next { x with toSend := upd x.toSend f (x.toSend f - 1), buf := bufSet x.buf w f (x.buf w f + 1) } := by
  refine hi.change hf rfl rfl rfl (hd := fun _ h => h) (hoff := fun g hg => ?_) (hat := ?_)
  · simp only [file, infl, upd_other _ _ _ _ hg, inflight_bufSet_other _ _ _ _ _ hg]
  · simp only [file, infl, upd_same]
    exact (hi.ok f hf).dispatch ht (inflight_inc _ _ _ _ hw)

theorem Inv.sendEnd {x : Files} (hi : x.Inv) {f : Nat} (hf : f < x.k) (ht : x.toSend f = 0) (he : x.endSent f = false) :
    x.Next { x with endSent := upd x.endSent f true } := by
  refine hi.change hf rfl rfl rfl (hd := fun _ h => h) (hoff := fun g hg => ?_) (hat := ?_)
  · simp only [file, infl, upd_other _ _ _ _ hg]
  · simp only [file, infl, upd_same]
    exact (hi.ok f hf).sendEnd ht he

theorem Inv.read {x : Files} (hi : x.Inv) {w f : Nat} (hf : f < x.k) (hw : w < x.n) (hb : 0 < x.buf w f) :
    x.Next (fin { x with buf := bufSet x.buf w f (x.buf w f - 1), remaining := upd x.remaining f (x.remaining f - 1) } f) := by
  refine hi.change_fin hf rfl rfl rfl (hd := fun _ h => h) (hoff := fun g hg => ?_) (hat := ?_)
  · simp only [file, infl, upd_other _ _ _ _ hg, inflight_bufSet_other _ _ _ _ _ hg]
  · simp only [file, infl, upd_same]
    exact (hi.ok f hf).read (inflight_dec _ _ _ _ hw hb)

theorem Inv.recvEnd {x : Files} (hi : x.Inv) {f : Nat} (hf : f < x.k) (hs : x.endSent f = true) (he : x.endRecv f = false) :
    x.Next (fin { x with endRecv := upd x.endRecv f true } f) := by
  refine hi.change_fin hf rfl rfl rfl (hd := fun _ h => h) (hoff := fun g hg => ?_) (hat := ?_)
  · simp only [file, infl, upd_other _ _ _ _ hg]
  · simp only [file, infl, upd_same]
    exact (hi.ok f hf).recvEnd hs he

theorem Inv.recvDone {x : Files} (hi : x.Inv) {f : Nat} (hf : f < x.k) (hs : x.doneSent f = true) (hr : x.doneRecv f = false) :
    x.Next { x with doneRecv := upd x.doneRecv f true } := by
  refine hi.change hf rfl rfl rfl (hd := fun g h => upd_true_iff.mpr (.inr h)) (hoff := fun g hg => ?_) (hat := ?_)
  · simp only [file, infl, upd_other _ _ _ _ hg]
  · simp only [file, infl, upd_same]
    exact (hi.ok f hf).recvDone hs hr

theorem Inv.sendEndAll {x : Files} (hi : x.Inv) (hd : allB x.k x.doneRecv) (hs : x.endAllSent = false) :
    x.Next { x with endAllSent := true } := by
  refine { inv := ⟨hi.ok, fun _ => hd, fun _ => rfl⟩, dec := ?_ }
  show sumN x.k (fun f => (x.file f).weight) + b2n (!true) + b2n (!x.endAllRecv) + 1 = x.measure
  simp only [measure, hs, Bool.not_true, Bool.not_false, b2n_true, b2n_false]
  omega

theorem Inv.recvEndAll {x : Files} (hi : x.Inv) (hs : x.endAllSent = true) (hr : x.endAllRecv = false) :
    x.Next { x with endAllRecv := true } := by
  refine { inv := ⟨hi.ok, hi.eas, fun _ => hs⟩, dec := ?_ }
  show sumN x.k (fun f => (x.file f).weight) + b2n (!x.endAllSent) + b2n (!true) + 1 = x.measure
  simp only [measure, hr, Bool.not_true, Bool.not_false, b2n_true, b2n_false]

/-- as long as `End` is not in, the file-level part of the guard of some step holds -/
theorem Inv.enabled {x : Files} (hi : x.Inv) (hnf : x.endAllRecv = false) :
    (∃ f, f < x.k ∧ x.doneRecv f = false ∧ (0 < x.toSend f ∨ x.toSend f = 0 ∧ x.endSent f = false ∨
      x.endSent f = true ∧ x.endRecv f = false ∨ 0 < x.infl f ∨ x.doneSent f = true)) ∨
    allB x.k x.doneRecv ∧ x.endAllSent = false ∨ x.endAllSent = true ∧ x.endAllRecv = false := by
  by_cases hd : ∃ f, f < x.k ∧ x.doneRecv f = false
  · obtain ⟨f, hf, hd⟩ := hd
    exact .inl ⟨f, hf, hd, (hi.ok f hf).enabled⟩
  · have hall : allB x.k x.doneRecv := fun f hf => by
      cases hv : x.doneRecv f with
      | true => rfl
      | false => exact absurd ⟨f, hf, hv⟩ hd
    cases hs : x.endAllSent with
    | false => exact .inr (.inl ⟨hall, rfl⟩)
    | true => exact .inr (.inr ⟨rfl, hnf⟩)

theorem Inv.final {x : Files} (hi : x.Inv) (he : x.endAllRecv = true) (f : Nat) (hf : f < x.k) :
    x.doneRecv f = true ∧ x.remaining f = 0 :=
  have hd := hi.eas (hi.ear he) f hf
  ⟨hd, ((hi.ok f hf).done1 ((hi.ok f hf).dr hd)).1⟩

def init (k n : Nat) (chunks : Nat → Nat) : Files :=
  ⟨k, n, chunks, chunks, fun _ _ => 0, fun _ => false, fun _ => false, fun _ => false, fun _ => false, false, false⟩

theorem inv_init (k n : Nat) (chunks : Nat → Nat) : (init k n chunks).Inv := by
  refine ⟨fun f _ => ⟨?_, nofun, nofun, nofun, nofun, nofun⟩, nofun, nofun⟩
  show chunks f = chunks f + sumN n (fun _ => 0)
  rw [sumN_zero (fun _ _ => rfl)]
  rfl

end Files

structure Inv (s : St) : Prop where
  cons : ∀ f, f < s.k → s.remaining f = s.toSend f + inflight s f
  vis : ∀ w f, s.buf w f > 0 → w < s.visible
  acc : s.accepted ≤ s.visible ∧ s.visible ≤ s.n
  done1 : ∀ f, f < s.k → s.doneSent f = true → s.remaining f = 0 ∧ s.endRecv f = true
  done2 : ∀ f, f < s.k → s.remaining f = 0 → s.endRecv f = true → s.doneSent f = true
  endo : ∀ f, f < s.k → s.endRecv f = true → s.endSent f = true
  ends : ∀ f, f < s.k → s.endSent f = true → s.toSend f = 0
  dr : ∀ f, f < s.k → s.doneRecv f = true → s.doneSent f = true
  eas : s.endAllSent = true → allB s.k s.doneRecv
  ear : s.endAllRecv = true → s.endAllSent = true
  npos : 0 < s.n

def files (s : St) : Files :=
  { k := s.k, n := s.n, toSend := s.toSend, remaining := s.remaining, buf := s.buf, endSent := s.endSent, endRecv := s.endRecv,
    doneSent := s.doneSent, doneRecv := s.doneRecv, endAllSent := s.endAllSent, endAllRecv := s.endAllRecv }

theorem Inv.files {s : St} (hi : Inv s) : (files s).Inv :=
  ⟨fun f hf => ⟨hi.cons f hf, hi.done1 f hf, hi.done2 f hf, hi.endo f hf, hi.ends f hf, hi.dr f hf⟩, hi.eas, hi.ear⟩

theorem inv_of_files {s : St} (h : (files s).Inv) (vis : ∀ w f, s.buf w f > 0 → w < s.visible)
    (acc : s.accepted ≤ s.visible ∧ s.visible ≤ s.n) (npos : 0 < s.n) : Inv s :=
  { vis, acc, npos, eas := h.eas, ear := h.ear
    cons := fun f hf => (h.ok f hf).cons
    done1 := fun f hf => (h.ok f hf).done1
    done2 := fun f hf => (h.ok f hf).done2
    endo := fun f hf => (h.ok f hf).endo
    ends := fun f hf => (h.ok f hf).ends
    dr := fun f hf => (h.ok f hf).dr }

def term (s : St) (f : Nat) : Nat := 2 * s.toSend f + b2n (!s.endSent f) + b2n (!s.endRecv f) + b2n (!s.doneRecv f)

theorem measure_eq (s : St) :
    measure s = sumN s.k (term s) + sumN s.k (inflight s) + (s.n - s.accepted) + b2n (!s.endAllSent) + b2n (!s.endAllRecv) := rfl

theorem measure_files (s : St) : measure s = (files s).measure + (s.n - s.accepted) := by
  show _ = sumN s.k (fun f => term s f + inflight s f) + b2n (!s.endAllSent) + b2n (!s.endAllRecv) + (s.n - s.accepted)
  rw [measure_eq, sumN_add]
  omega

/-- a step whose file-level part keeps the invariant and lowers the measure does so on the whole state, given the stream clauses of `Inv s'` -/
theorem lift {s s' : St} (h : (files s).Next (files s')) (vis : ∀ w f, s'.buf w f > 0 → w < s'.visible)
    (acc : s'.accepted ≤ s'.visible ∧ s'.visible ≤ s'.n) (npos : 0 < s'.n) (ha : s'.n - s'.accepted = s.n - s.accepted) :
    Inv s' ∧ measure s' + 1 = measure s :=
  ⟨inv_of_files h.inv vis acc npos, by rw [measure_files, measure_files, ha, ← h.dec, Nat.add_right_comm]⟩

theorem fin_eq (s : St) (f : Nat) : fin s f = { s with doneSent := ((files s).fin f).doneSent } :=
  -- the `else` branch of `fin` is `{ s with doneSent := s.doneSent }`
  (apply_ite (fun d => ({ s with doneSent := d } : St)) _ _ _).symm

theorem inv_init (k n : Nat) (chunks : Nat → Nat) (hn : 0 < n) : Inv (init k n chunks) :=
  inv_of_files (Files.inv_init k n chunks) (vis := nofun) (acc := ⟨Nat.le_refl 0, Nat.zero_le n⟩) (npos := hn)

theorem step_spec {s s' : St} {a : Step} (hi : Inv s) (hs : step s a = some s') : Inv s' ∧ measure s' + 1 = measure s := by
  cases a with
  | dispatch f w =>
    obtain ⟨⟨hf, hw, ht⟩, rfl⟩ := Option.ite_some_none_eq_some.mp hs
    have hvis (w' f' : Nat) : 0 < bufSet s.buf w f (s.buf w f + 1) w' f' → w' < max s.visible (w + 1) :=
      bufSet_pos (P := (· < max s.visible (w + 1))) (h := fun w₁ f₁ hb => Nat.lt_of_lt_of_le (hi.vis w₁ f₁ hb) (Nat.le_max_left ..))
        (hw := Nat.le_max_right ..)
    exact lift (hi.files.dispatch hf hw ht) (vis := hvis) (acc := ⟨Nat.le_trans hi.acc.1 (Nat.le_max_left ..), Nat.max_le.mpr ⟨hi.acc.2, hw⟩⟩)
      hi.npos (ha := rfl)
  | sendEnd f =>
    obtain ⟨⟨hf, ht, he⟩, rfl⟩ := Option.ite_some_none_eq_some.mp hs
    exact lift (hi.files.sendEnd hf ht he) hi.vis hi.acc hi.npos (ha := rfl)
  | accept =>
    obtain ⟨ha, rfl⟩ := Option.ite_some_none_eq_some.mp hs
    refine ⟨{ hi with acc := ⟨ha, hi.acc.2⟩ }, ?_⟩
    rw [measure_files, measure_files]
    show (files s).measure + (s.n - (s.accepted + 1)) + 1 = _
    rw [Nat.add_assoc, sub_succ_add_one (Nat.lt_of_lt_of_le ha hi.acc.2)]
  | readFrame w f =>
    obtain ⟨⟨hf, hw, hb⟩, rfl⟩ := Option.ite_some_none_eq_some.mp hs
    have h := hi.files.read hf (Nat.lt_of_lt_of_le hw (Nat.le_trans hi.acc.1 hi.acc.2)) hb
    rw [fin_eq]
    exact lift h (vis := fun _ _ => bufSet_pos hi.vis (hw := hi.vis w f hb)) hi.acc hi.npos (ha := rfl)
  | recvEnd f =>
    obtain ⟨⟨hf, he, hr⟩, rfl⟩ := Option.ite_some_none_eq_some.mp hs
    have h := hi.files.recvEnd hf he hr
    rw [fin_eq]
    exact lift h hi.vis hi.acc hi.npos (ha := rfl)
  | recvDone f =>
    obtain ⟨⟨hf, hd, hr⟩, rfl⟩ := Option.ite_some_none_eq_some.mp hs
    exact lift (hi.files.recvDone hf hd hr) hi.vis hi.acc hi.npos (ha := rfl)
  | sendEndAll =>
    obtain ⟨⟨hd, he⟩, rfl⟩ := Option.ite_some_none_eq_some.mp hs
    -- the sender's workers close their streams: all of them become visible
    exact lift (hi.files.sendEndAll hd he) (vis := fun w f h => Nat.lt_of_lt_of_le (hi.vis w f h) hi.acc.2)
      (acc := ⟨Nat.le_trans hi.acc.1 hi.acc.2, Nat.le_refl _⟩) hi.npos (ha := rfl)
  | recvEndAll =>
    obtain ⟨⟨he, hr⟩, rfl⟩ := Option.ite_some_none_eq_some.mp hs
    exact lift (hi.files.recvEndAll he hr) hi.vis hi.acc hi.npos (ha := rfl)

theorem step_inv {s s' : St} {a : Step} (hi : Inv s) (hs : step s a = some s') : Inv s' := (step_spec hi hs).1

theorem step_measure {s s' : St} {a : Step} (hi : Inv s) (hs : step s a = some s') : measure s' < measure s :=
  Nat.lt_of_succ_le (Nat.le_of_eq (step_spec hi hs).2)

theorem reachable_inv {k n : Nat} {chunks : Nat → Nat} (hn : 0 < n) {s : St} (h : Reachable k n chunks s) : Inv s := by
  induction h with
  | init => exact inv_init k n chunks hn
  | step a _ hs ih => exact step_inv ih hs

/-! ### progress: no reachable non-final state is stuck -/

theorem progress {s : St} (hi : Inv s) (hnf : s.endAllRecv = false) : ∃ a s', step s a = some s' := by
  rcases hi.files.enabled hnf with ⟨f, hf, hd, h | h | h | h | h⟩ | h | h
  · exact ⟨.dispatch f 0, _, if_pos ⟨hf, hi.npos, h⟩⟩
  · exact ⟨.sendEnd f, _, if_pos ⟨hf, h⟩⟩
  · exact ⟨.recvEnd f, _, if_pos ⟨hf, h⟩⟩
  · -- a frame in flight sits on a visible stream: it can be read, after accepting streams up to its own if need be
    obtain ⟨w, _, hb⟩ := sumN_pos h
    have := hi.vis w f hb
    by_cases hwa : w < s.accepted
    · exact ⟨.readFrame w f, _, if_pos ⟨hf, hwa, hb⟩⟩
    · exact ⟨.accept, _, if_pos (show s.accepted < s.visible by omega)⟩
  · exact ⟨.recvDone f, _, if_pos ⟨hf, h, hd⟩⟩
  · exact ⟨.sendEndAll, _, if_pos h⟩
  · exact ⟨.recvEndAll, _, if_pos h⟩

end TV.ProtoLM
