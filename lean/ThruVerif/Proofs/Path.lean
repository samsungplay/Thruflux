import ThruVerif.Model.Path
/-! Lexical confinement for the path model (`Model/Path`): pushing elements other than `..` stays inside, splitting on more
separators refines, and joining a validated relative path onto a directory stays inside it (`within_join`). -/
namespace TV.Path
open TV

theorem within_refl (a : List Bytes) : Within a a := ⟨[], (List.append_nil a).symm⟩

theorem within_trans {a b c : List Bytes} (h1 : Within a b) (h2 : Within b c) : Within a c := by
  obtain ⟨e1, rfl⟩ := h1
  obtain ⟨e2, rfl⟩ := h2
  exact ⟨e1 ++ e2, List.append_assoc ..⟩

theorem within_push (rooted : Bool) (stk : List Bytes) {s : Bytes} (hs : s ≠ dotdot) : Within stk (push rooted stk s) := by
  simp only [push, hs, if_false]
  split
  · exact within_refl stk
  · exact ⟨[s], rfl⟩

theorem within_pushAll (rooted : Bool) (ss : List Bytes) (stk : List Bytes) (h : NoDotDot ss) :
    Within stk (pushAll rooted stk ss) := by
  induction ss generalizing stk with
  | nil => exact within_refl stk
  | cons s ss ih =>
    rw [NoDotDot, List.forall_mem_cons] at h
    exact within_trans (within_push rooted stk h.1) (ih _ h.2)

/-! ### splitting -/

theorem hd_append (p : UInt8 → Bool) (a b : Bytes) (c : UInt8) (hc : p c = true) :
    hd p (a ++ c :: b) = hd p a := by
  induction a with
  | nil => simp [hd, hc]
  | cons x xs ih => simp only [List.cons_append, hd, ih]

theorem tl_append (p : UInt8 → Bool) (a b : Bytes) (c : UInt8) (hc : p c = true) :
    tl p (a ++ c :: b) = tl p a ++ splitOn p b := by
  induction a with
  | nil => simp [tl, hc, splitOn]
  | cons x xs ih =>
    simp only [List.cons_append, tl, ih, hd_append p xs b c hc]
    split <;> simp

theorem splitOn_append (p : UInt8 → Bool) (a b : Bytes) (c : UInt8) (hc : p c = true) :
    splitOn p (a ++ c :: b) = splitOn p a ++ splitOn p b := by
  simp [splitOn, hd_append p a b c hc, tl_append p a b c hc]

theorem splitOn_noSep {p : UInt8 → Bool} {l : Bytes} (h : l.any p = false) : splitOn p l = [l] := by
  induction l with
  | nil => rfl
  | cons b bs ih =>
    rw [List.any_cons, Bool.or_eq_false_iff] at h
    have := ih h.2
    simp only [splitOn, List.cons.injEq] at this
    simp [splitOn, hd, tl, h.1, this]

/-! Splitting on more separators (`q` where `p`) keeps every element that has none of the additional ones in it. -/

theorem hd_refine {p q : UInt8 → Bool} (hpq : ∀ b, p b = true → q b = true) (l : Bytes)
    (h : ∀ b ∈ hd p l, q b = false) : hd q l = hd p l := by
  induction l with
  | nil => rfl
  | cons b bs ih =>
    simp only [hd] at h ⊢
    by_cases hb : p b = true
    · simp [hb, hpq b hb]
    · simp only [hb, Bool.false_eq_true, if_false, List.forall_mem_cons] at h ⊢
      simp [h.1, ih h.2]

theorem tl_refine {p q : UInt8 → Bool} (hpq : ∀ b, p b = true → q b = true) {s : Bytes} (hs : ∀ b ∈ s, q b = false)
    (l : Bytes) (h : s ∈ tl p l) : s ∈ tl q l := by
  induction l with
  | nil => cases h
  | cons b bs ih =>
    simp only [tl] at h ⊢
    by_cases hb : p b = true
    · simp only [hb, hpq b hb, if_true, List.mem_cons] at h ⊢
      -- s begins behind this separator: it has no q-separator in it, so the finer split has the same element there; or s is further down
      rcases h with rfl | h
      · exact .inl (hd_refine hpq bs hs).symm
      · exact .inr (ih h)
    · -- b separates at most for q: the finer split may begin another element here, s is further down either way
      rw [if_neg hb] at h
      split
      · exact .tail _ (ih h)
      · exact ih h

theorem splitOn_refine {p q : UInt8 → Bool} (hpq : ∀ b, p b = true → q b = true) {s : Bytes} (hs : ∀ b ∈ s, q b = false)
    (l : Bytes) (h : s ∈ splitOn p l) : s ∈ splitOn q l := by
  simp only [splitOn, List.mem_cons] at h ⊢
  rcases h with rfl | h
  · exact .inl (hd_refine hpq l hs).symm
  · exact .inr (tl_refine hpq hs l h)

theorem noParent_noDotDot (p : Bytes) (h : hasParentSeg p = false) : NoDotDot (segs p) := by
  rintro s hs rfl
  have sub : ∀ b, isSlash b = true → isSep2 b = true :=
    fun b (hb : (b == slash) = true) => show (b == slash || b == bslash) = true by rw [hb]; rfl
  have nosep : ∀ b ∈ dotdot, isSep2 b = false := by decide
  have : dotdot ∈ splitOn isSep2 p := splitOn_refine sub nosep p hs
  simp only [hasParentSeg, List.any_eq_false, beq_iff_eq] at h
  exact h dotdot this rfl

/-- **a path that `validateRelPath` accepts has no `..` element** when split on `/` -/
theorem validate_noDotDot (maxLen : Nat) (p : Bytes) (h : validateRelPath maxLen p = none) : NoDotDot (segs p) := by
  apply noParent_noDotDot
  cases hp : hasParentSeg p with
  | false => rfl
  | true =>
    rw [validateRelPath, hp, if_pos rfl] at h
    split at h <;> cases h

/-! ### what the receiver touches -/

/-- `stack (a ++ "/" ++ b)` for a non-empty `a` = push the elements of `b` onto the stack of `a` -/
theorem stack_join (a b : Bytes) (ha : a ≠ []) :
    stack (a ++ slash :: b) = pushAll (isAbs a) (stack a) (segs b) := by
  have habs : isAbs (a ++ slash :: b) = isAbs a := by
    cases a with
    | nil => exact absurd rfl ha
    | cons x xs => rfl
  simp only [stack, segs, habs, splitOn_append isSlash a b slash (by decide), pushAll, List.foldl_append]

/-- **Within_join.** Joining a relative path without `..` elements onto a directory stays inside it. -/
theorem within_join (a b : Bytes) (ha : a ≠ []) (hb : NoDotDot (segs b)) :
    Within (stack a) (stack (a ++ slash :: b)) := by
  rw [stack_join a b ha]
  exact within_pushAll (isAbs a) (segs b) (stack a) hb

end TV.Path
