import ThruVerif.Model.Codec
/-! Round trips of the byte codec (`Basic/Bytes`) and of the layout codec and control records (`Model/Codec`), and what a
reader leaves of its input. -/
namespace TV

theorem putBE_length (w n : Nat) : (putBE w n).length = w := by
  induction w generalizing n with
  | zero => rfl
  | succ w ih => simp [putBE, ih]

theorem beVal_acc (bs : Bytes) (acc : Nat) : beVal bs acc = acc * 256 ^ bs.length + beVal bs 0 := by
  induction bs generalizing acc with
  | nil => simp [beVal]
  | cons b bs ih =>
    simp only [beVal, List.length_cons]
    rw [ih (acc * 256 + b.toNat), ih (0 * 256 + b.toNat)]
    rw [Nat.pow_succ, Nat.add_mul]
    simp [Nat.mul_assoc, Nat.mul_comm, Nat.add_assoc]

theorem beVal_putBE (w n : Nat) (h : n < 256 ^ w) : beVal (putBE w n) 0 = n := by
  induction w generalizing n with
  | zero => rw [Nat.pow_zero] at h; rw [Nat.lt_one_iff.1 h]; rfl
  | succ w ih =>
    have hq : n / 256 ^ w < 256 := Nat.div_lt_of_lt_mul (Nat.pow_succ .. ▸ h)
    have hr : n % 256 ^ w < 256 ^ w := Nat.mod_lt _ (Nat.pow_pos (by decide))
    rw [putBE, beVal, UInt8.toNat_ofNat_of_lt' hq, beVal_acc, putBE_length, ih _ hr, Nat.zero_mul, Nat.zero_add]
    exact Nat.div_add_mod' n _

theorem beVal_singleton (b : UInt8) : beVal [b] 0 = b.toNat := by
  rw [beVal, beVal, Nat.zero_mul, Nat.zero_add]

theorem takeN_append (xs rest : Bytes) : takeN xs.length (xs ++ rest) = .ok (xs, rest) := by
  unfold takeN
  split
  · rename_i h0; rw [List.eq_nil_of_length_eq_zero h0]; rfl
  · rw [List.length_append, if_neg (by omega), if_neg (by omega), List.take_left, List.drop_left]

theorem takeN_one_cons (b : UInt8) (bs : Bytes) : takeN 1 (b :: bs) = .ok ([b], bs) :=
  takeN_append [b] bs

theorem getU_putBE (w n : Nat) (rest : Bytes) (h : n < 256 ^ w) :
    getU w (putBE w n ++ rest) = .ok (n, rest) := by
  have := takeN_append (putBE w n) rest
  rw [putBE_length] at this
  simp only [getU, this, beVal_putBE w n h]

theorem takeN_ok {n : Nat} {bs h r : Bytes} (hh : takeN n bs = .ok (h, r)) : bs = h ++ r ∧ h.length = n := by
  revert hh
  fun_cases takeN n bs <;> intro hh <;> cases hh
  · rename_i h0
    exact ⟨rfl, h0.symm⟩
  · exact ⟨(List.take_append_drop n bs).symm, List.length_take_of_le (by omega)⟩

/-! Reading leaves a suffix of the input: stated with `<:+` so that successive reads compose by `.trans`. -/

theorem takeN_suffix {n : Nat} {bs h r : Bytes} (hh : takeN n bs = .ok (h, r)) : r <:+ bs :=
  ⟨h, (takeN_ok hh).1.symm⟩

theorem getU_suffix {w v : Nat} {bs r : Bytes} (h : getU w bs = .ok (v, r)) : r <:+ bs := by
  revert h
  fun_cases getU w bs <;> intro h <;> cases h
  exact takeN_suffix ‹takeN w bs = _›

end TV

namespace TV.Codec
open TV

theorem decGroup_enc (ws vs : List Nat) (rest : Bytes) (h : FitsGroup ws vs) :
    decGroup ws (encGroup ws vs ++ rest) = .ok (vs, rest) := by
  revert h
  fun_induction FitsGroup ws vs <;> intro h
  · rfl
  · rename_i ih
    simp only [encGroup, decGroup, List.append_assoc, getU_putBE _ _ _ h.1, ih h.2]
  · exact h.elim

theorem decGroups_enc (ws : List Nat) (gs : List (List Nat)) (rest : Bytes) (h : ∀ g ∈ gs, FitsGroup ws g) :
    decGroups ws gs.length (encGroups ws gs ++ rest) = .ok (gs, rest) := by
  induction gs with
  | nil => rfl
  | cons g gs ih =>
    rw [List.forall_mem_cons] at h
    simp only [encGroups, decGroups, List.length_cons, List.append_assoc, decGroup_enc _ _ _ h.1, ih h.2]

theorem decF_encF (f : Fld) (v : Val) (rest : Bytes) (h : Fits f v) :
    decF f (encF f v ++ rest) = .ok (v, rest) := by
  revert h
  fun_cases Fits f v <;> intro h
  -- tag, uint, lenBytes, rep; last, a value of another shape than the field's, which does not fit
  · simp [encF, decF, takeN_one_cons]
  · simp only [encF, decF, getU_putBE _ _ _ h]
  · -- the length fits its prefix (h.1) and is within the read-side limit (h.2)
    rename_i w lim b
    simp only [encF, decF, List.append_assoc, getU_putBE _ _ _ h.1, takeN_append]
    cases lim with
    | none => rfl
    | some l => simp [Nat.not_lt.2 (h.2 l rfl)]
  · simp only [encF, decF, List.append_assoc, getU_putBE _ _ _ h.1, decGroups_enc _ _ _ h.2]
  · exact h.elim

/-- **codec_generic**: every layout round-trips and leaves exactly the bytes that followed it. -/
theorem decL_encL (fs : List Fld) (vs : List Val) (rest : Bytes) (h : FitsL fs vs) :
    decL fs (encL fs vs ++ rest) = .ok (vs, rest) := by
  induction h with
  | nil => rfl
  | cons hf _ ih =>
    simp only [encL, decL, List.append_assoc, decF_encF _ _ _ hf, ih]

/-! Decoding consumes a prefix: whatever a reader returns as remaining input is a suffix of what it was given.
In `decGroup`, `decGroups`, `decL`: `case1` nothing left to read; `case2`, `case3` a read failed; `case4` the head was read
(`hg`, `hf`) and the rest decoded (`hd`). -/

theorem decGroup_suffix {ws : List Nat} {bs r : Bytes} {vs : List Nat} (h : decGroup ws bs = .ok (vs, r)) : r <:+ bs := by
  fun_induction decGroup ws bs generalizing vs with
  | case1 => cases h; exact List.suffix_refl _
  | case2 | case3 => cases h
  | case4 _ _ _ _ _ hg _ _ hd ih => cases h; exact (ih hd).trans (getU_suffix hg)

theorem decGroup_prefix {ws : List Nat} {bs r : Bytes} {vs : List Nat} (h : decGroup ws bs = .ok (vs, r)) :
    ∃ c, bs = c ++ r :=
  let ⟨c, hc⟩ := decGroup_suffix h
  ⟨c, hc.symm⟩

theorem decGroups_suffix {ws : List Nat} {k : Nat} {bs r : Bytes} {gs : List (List Nat)}
    (h : decGroups ws k bs = .ok (gs, r)) : r <:+ bs := by
  fun_induction decGroups ws k bs generalizing gs with
  | case1 => cases h; exact List.suffix_refl _
  | case2 | case3 => cases h
  | case4 _ _ _ _ hg _ _ hd ih => cases h; exact (ih hd).trans (decGroup_suffix hg)

theorem decF_suffix {f : Fld} {bs r : Bytes} {v : Val} (h : decF f bs = .ok (v, r)) : r <:+ bs := by
  revert h
  fun_cases decF f bs <;> intro h <;> cases h
  · exact takeN_suffix ‹takeN 1 bs = _›
  · exact getU_suffix ‹getU _ bs = _›
  · exact (takeN_suffix ‹takeN _ _ = _›).trans (getU_suffix ‹getU _ bs = _›)
  · exact (decGroups_suffix ‹decGroups _ _ _ = _›).trans (getU_suffix ‹getU _ bs = _›)

theorem decL_suffix {fs : List Fld} {bs r : Bytes} {vs : List Val} (h : decL fs bs = .ok (vs, r)) : r <:+ bs := by
  fun_induction decL fs bs generalizing vs with
  | case1 => cases h; exact List.suffix_refl _
  | case2 | case3 => cases h
  | case4 _ _ _ _ _ hf _ _ hd ih => cases h; exact (ih hd).trans (decF_suffix hf)

/-! ### Round trip of records and record streams, for any path limit -/

theorem kindOfTag_tag (k : Kind) : kindOfTag k.tag = some k := by cases k <;> decide
theorem tag_lt (k : Kind) : k.tag < 256 := by cases k <;> decide

theorem ofVals_vals (r : Rec) : r.kind.ofVals r.vals = some r := by
  cases r with
  | creditBatch es =>
    have : (es.map fun (a, b) => [a, b]).map pairOf = es := by
      rw [List.map_map]; exact List.map_id'' (fun _ => rfl) es
    exact congrArg (some ∘ Rec.creditBatch) this
  | fileDone a ok e => cases ok <;> rfl
  | _ => rfl

theorem fits_bytes {w : Nat} {b : Bytes} (h : b.length < 256 ^ w) : Fits (.lenBytes w none) (.bs b) :=
  ⟨h, fun _ hl => nomatch hl⟩

/-- `Wf` lists, field by field in layout order, the bounds `Fits` asks for: its `2 ^ 16`, `2 ^ 32`, `2 ^ 64` and the
    `256 ^ w` of `Fits` evaluate to the same numerals, so each hypothesis is used as it stands. -/
theorem fits_vals (maxPath : Nat) (r : Rec) (h : Wf maxPath r) : FitsL (r.kind.body maxPath) r.vals := by
  cases r with
  | fileBegin p a b c d e f g h' =>
    obtain ⟨h0, h1, h2, h3, h4, h5, h6, h7, h8, h9⟩ := h
    exact .cons ⟨h1, fun l hl => Option.some.inj hl ▸ h0⟩
      (.cons h2 (.cons h3 (.cons h4 (.cons h5 (.cons h6 (.cons h7 (.cons h8 (.cons h9 .nil))))))))
  | credit a b => exact .cons h.1 (.cons h.2 .nil)
  | creditBatch es =>
    refine .cons ⟨(List.length_map ..).symm ▸ h.1, fun g hg => ?_⟩ .nil
    obtain ⟨e, he, rfl⟩ := List.mem_map.1 hg
    exact ⟨(h.2 e he).1, (h.2 e he).2, trivial⟩
  | fileEnd a b => exact .cons h.1 (.cons h.2 .nil)
  | fileDone a ok e =>
    exact .cons h.1 (.cons (show _ < 256 ^ 1 by cases ok <;> decide) (.cons (fits_bytes h.2) .nil))
  | fileResumeInfo f a b bm c d =>
    obtain ⟨h1, h2, h3, h4, h5, h6⟩ := h
    exact .cons (fits_bytes h1) (.cons h2 (.cons h3 (.cons (fits_bytes h4) (.cons h5 (.cons h6 .nil)))))
  | resumeRequest f a => exact .cons (fits_bytes h.1) (.cons h.2 .nil)
  | dataStreams c => exact .cons h .nil
  | end_ => exact .nil

theorem decode_encode (maxPath : Nat) (r : Rec) (rest : Bytes) (h : Wf maxPath r) :
    decode maxPath (encode maxPath r ++ rest) = .ok (r, rest) := by
  simp only [decode, encode, List.cons_append, takeN_one_cons, beVal_singleton, UInt8.toNat_ofNat_of_lt' (tag_lt _),
    kindOfTag_tag, decL_encL _ _ _ (fits_vals maxPath r h), ofVals_vals]

theorem decodeAll_encode (maxPath : Nat) (rs : List Rec) (h : ∀ r ∈ rs, Wf maxPath r) (fuel : Nat)
    (hf : rs.length ≤ fuel) : decodeAll maxPath fuel (rs.flatMap (encode maxPath)) = .ok rs := by
  induction rs generalizing fuel with
  | nil => cases fuel <;> rfl
  | cons r rs ih =>
    rw [List.forall_mem_cons] at h
    cases fuel with
    | zero => cases hf
    | succ fuel =>
      have hne : encode maxPath r ++ rs.flatMap (encode maxPath) ≠ [] := List.cons_ne_nil _ _
      simp only [List.flatMap_cons, decodeAll, hne, if_false, decode_encode _ r _ h.1,
        ih h.2 fuel (Nat.le_of_succ_le_succ hf)]

end TV.Codec
