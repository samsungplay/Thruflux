import ThruVerif.Model.FileWait
import ThruVerif.Proofs.Step

/-! Helper lemmas and the inductive invariant of the FileBegin wake-up protocol (`Model/FileWait`). -/
namespace TV.FileWait

theorem get_set {l : List RPc} {i : Nat} {p : RPc} (v : RPc) (j : Nat) (h : l[i]? = some p) :
    (l.set i v)[j]? = if j = i then some v else l[j]? := by
  have hi : i < l.length := (List.getElem?_eq_some_iff.mp h).1
  rw [List.getElem?_set]
  by_cases hji : j = i
  · subst hji; simp [hi]
  · have : ¬ i = j := fun e => hji e.symm
    simp [hji, this]

theorem measure_set {s : St} {i : Nat} {p : RPc} (v : RPc) (w c : List Nat) (hp : s.pcs[i]? = some p) (hv : rank v < rank p) :
    measure { s with pcs := s.pcs.set i v, waiters := w, closed := c } < measure s := by
  have this : ((s.pcs.set i v).map rank).sum + rank p = (s.pcs.map rank).sum + rank v := by
    have h := sum_set (s.pcs.map rank) i (rank v) (by rw [List.length_map]; exact (List.getElem?_eq_some_iff.mp hp).1)
    rwa [List.getElem?_map, hp, Option.map_some, Option.getD_some, ← List.map_set] at h
  simp only [measure]
  omega

theorem mem_set_go {l : List RPc} {i : Nat} {v : RPc} (h : ∀ p ∈ l, p = RPc.go) (hv : v = .go) : ∀ p ∈ l.set i v, p = RPc.go := by
  intro p hp
  rcases List.mem_or_eq_of_mem_set hp with h' | h'
  · exact h p h'
  · exact h'.trans hv

/-- the invariant: a reader past its registration has its channel in the registry or closed; once `signal` ran, a channel still in
the registry belongs to a reader that registered afterwards - it is not blocked (it saw, or will see, the state in its predicate) -/
structure Inv (s : St) : Prop where
  chan : ∀ i, (s.pcs[i]? = some .registered ∨ s.pcs[i]? = some .blocked) → i ∈ s.waiters ∨ i ∈ s.closed
  late : s.hpc = .signalled → ∀ i ∈ s.waiters, s.pcs[i]? ≠ some .blocked
  early : s.hpc = .before → s.closed = []

theorem Inv.closed_of_blocked {s : St} (hI : Inv s) (hs : s.hpc = .signalled) {i : Nat} (hb : s.pcs[i]? = some .blocked) : i ∈ s.closed :=
  (hI.chan i (.inr hb)).resolve_left (fun h => hI.late hs i h hb)

theorem inv_init (n : Nat) : Inv (init n) := by
  refine ⟨fun i h => ?_, nofun, fun _ => rfl⟩
  simp only [init, List.getElem?_replicate] at h
  rcases h with h | h <;> split at h <;> cases h

/-- reader `i` moves on to `v`, possibly registering its channel: the invariant survives if `v` waits only with a channel that is
registered or closed, and does not block once `signal` ran -/
theorem inv_set {s : St} {i : Nat} {p v : RPc} {ws : List Nat} (hI : Inv s) (hp : s.pcs[i]? = some p)
    (chan : v = .registered ∨ v = .blocked → i ∈ ws ∨ i ∈ s.closed) (late : s.hpc = .signalled → v ≠ .blocked)
    (keeps : ∀ j, j ∈ s.waiters → j ∈ ws) (adds : ∀ j, j ∈ ws → j = i ∨ j ∈ s.waiters) :
    Inv { s with pcs := s.pcs.set i v, waiters := ws } := by
  refine { chan := fun j hj => ?_, late := fun hs j hj => ?_, early := hI.early }
  · simp only [get_set _ j hp] at hj
    split at hj
    next hji => subst hji; exact chan (hj.imp Option.some.inj Option.some.inj)
    next => exact (hI.chan j hj).imp (keeps j) id
  · simp only [get_set _ j hp]
    split
    next => exact fun e => late hs (Option.some.inj e)
    next hji => exact hI.late hs j ((adds j hj).resolve_left hji)

theorem stateKnown_of_signalled {s : St} (hs : s.hpc = .signalled) : stateKnown s = true := by
  simp [stateKnown, hs]

theorem inv_step {s s' : St} {a : Step} (hI : Inv s) (h : step true s a = some s') : Inv s' := by
  cases a with
  | lookup i =>
    obtain ⟨hp, rfl⟩ := Option.ite_some_none_eq_some.mp h
    -- the new pc is `go` or `sawNone`: not waiting yet
    exact inv_set hI hp (chan := by split <;> simp) (late := fun _ => by split <;> nofun) (keeps := fun _ h => h) (adds := fun _ h => .inr h)
  | register i =>
    obtain ⟨hp, rfl⟩ := Option.ite_some_none_eq_some.mp h
    -- the new pc is `registered`, not `blocked`
    exact inv_set hI hp (chan := fun _ => .inl List.mem_cons_self) (late := fun _ => by simp)
      (keeps := fun _ h => List.mem_cons_of_mem _ h) (adds := fun _ h => List.mem_cons.mp h)
  | recheck i =>
    obtain ⟨hp, rfl⟩ := Option.ite_some_none_eq_some.mp h
    -- what fix 39667d3 is for: once `signal` ran the predicate finds the state, so the reader goes on instead of blocking
    exact inv_set hI hp (chan := fun _ => hI.chan i (.inl hp)) (late := fun hs => by rw [stateKnown_of_signalled hs]; nofun)
      (keeps := fun _ h => h) (adds := fun _ h => .inr h)
  | wake i =>
    obtain ⟨hp, rfl⟩ := Option.ite_some_none_eq_some.mp h
    exact inv_set hI hp.1 (chan := by simp) (late := fun _ => by simp) (keeps := fun _ h => h) (adds := fun _ h => .inr h)
  | store =>
    obtain ⟨_, rfl⟩ := Option.ite_some_none_eq_some.mp h
    -- `hpc` is `stored`: neither `late` nor `early` has a premise
    exact { chan := hI.chan, late := nofun, early := nofun }
  | signal =>
    obtain ⟨_, rfl⟩ := Option.ite_some_none_eq_some.mp h
    refine { chan := fun j hj => .inr ?_, late := fun _ _ hj => (List.not_mem_nil hj).elim, early := nofun }
    exact (hI.chan j hj).elim (List.mem_append_left _) (List.mem_append_right _)

theorem measure_step {r : Bool} {s s' : St} {a : Step} (h : step r s a = some s') : measure s' < measure s := by
  cases a with
  | lookup i =>
    obtain ⟨hp, rfl⟩ := Option.ite_some_none_eq_some.mp h
    exact measure_set _ s.waiters s.closed hp (by split <;> decide)
  | register i =>
    obtain ⟨hp, rfl⟩ := Option.ite_some_none_eq_some.mp h
    exact measure_set _ (i :: s.waiters) s.closed hp (by split <;> decide)
  | recheck i =>
    obtain ⟨hp, rfl⟩ := Option.ite_some_none_eq_some.mp h
    exact measure_set _ s.waiters s.closed hp (by split <;> decide)
  | wake i =>
    obtain ⟨hp, rfl⟩ := Option.ite_some_none_eq_some.mp h
    exact measure_set _ s.waiters s.closed hp.1 (by decide)
  | store =>
    obtain ⟨hp, rfl⟩ := Option.ite_some_none_eq_some.mp h
    simp [measure, hp, hrank]
  | signal =>
    obtain ⟨hp, rfl⟩ := Option.ite_some_none_eq_some.mp h
    simp [measure, hp, hrank]

theorem exists_not_go {l : List RPc} (h : ¬ ∀ p ∈ l, p = RPc.go) : ∃ (i : Nat) (p : RPc), l[i]? = some p ∧ p ≠ RPc.go := by
  refine Classical.byContradiction fun hn => h fun p hp => ?_
  obtain ⟨i, hi⟩ := List.getElem?_of_mem hp
  exact Decidable.byContradiction fun hne => hn ⟨i, p, hi, hne⟩

/-- progress: in a state satisfying the invariant that is not finished, some step is enabled -/
theorem progress {s : St} (hI : Inv s) (hd : ¬ done s) : ∃ a s', step true s a = some s' := by
  by_cases hh : s.hpc = .signalled
  · have hng : ¬ ∀ p ∈ s.pcs, p = RPc.go := fun h => hd ⟨hh, h⟩
    obtain ⟨i, p, hp, hne⟩ := exists_not_go hng
    cases p with
    | start => exact ⟨.lookup i, _, if_pos hp⟩
    | sawNone => exact ⟨.register i, _, if_pos hp⟩
    | registered => exact ⟨.recheck i, _, if_pos hp⟩
    | blocked => exact ⟨.wake i, _, if_pos ⟨hp, hI.closed_of_blocked hh hp⟩⟩
    | go => exact absurd rfl hne
  · cases hpc : s.hpc with
    | before => exact ⟨.store, _, if_pos hpc⟩
    | stored => exact ⟨.signal, _, if_pos hpc⟩
    | signalled => exact absurd hpc hh

theorem run_cons (r : Bool) (s : St) (a : Step) (as : List Step) : run r s (a :: as) = (step r s a).bind (run r · as) := by
  rw [run]; cases step r s a <;> rfl

theorem run_spec {s s' : St} {as : List Step} (hI : Inv s) (h : run true s as = some s') : Inv s' ∧ as.length + measure s' ≤ measure s :=
  run_length_le_of (nil := fun _ => rfl) (cons := run_cons true) (hstep := fun _ _ _ hI h => ⟨inv_step hI h, measure_step h⟩) as hI h

theorem inv_run {s s' : St} {as : List Step} (hI : Inv s) (h : run true s as = some s') : Inv s' := (run_spec hI h).1

theorem measure_init (n : Nat) : measure (init n) = 4 * n + 2 := by
  simp only [measure, init, hrank, List.map_replicate, rank, List.sum_replicate_nat]
  omega

end TV.FileWait
