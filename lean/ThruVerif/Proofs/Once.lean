import ThruVerif.Model.Once
import ThruVerif.Proofs.Step
import Mathlib.Data.List.Nodup
import Mathlib.Data.List.Perm.Subperm

/-! Invariant of the finalisation gate (`Model/Once`, atomic test-and-set). -/
namespace TV.Once

structure Inv (s : St) : Prop where
  notest : s.testing = []
  nodup : (s.passed.map Prod.fst ++ s.counted).Nodup
  isdone : ∀ f, f ∈ s.passed.map Prod.fst ++ s.counted → f ∈ s.done
  count : s.completed = s.counted.length

theorem inv_init : Inv init := ⟨rfl, by simp [init], by simp [init], rfl⟩

/-- counting takes a file from `passed`, and puts it on `counted` only with verdict ok: no file joins those past the gate -/
theorem count_subperm {s : St} {f : Nat} {ok : Bool} (hm : (f, ok) ∈ s.passed) :
    ((s.passed.erase (f, ok)).map Prod.fst ++ if ok then f :: s.counted else s.counted).Subperm
      (s.passed.map Prod.fst ++ s.counted) := by
  have hp : (s.passed.map Prod.fst ++ s.counted).Perm (f :: ((s.passed.erase (f, ok)).map Prod.fst ++ s.counted)) :=
    ((List.perm_cons_erase hm).map Prod.fst).append_right s.counted
  cases ok with
  | false => exact ((List.sublist_cons_self f _).subperm).trans hp.symm.subperm
  | true => exact (List.perm_middle.trans hp.symm).subperm

theorem nodup_of_subperm {α : Type} {l₁ l₂ : List α} (h : l₁.Subperm l₂) (hn : l₂.Nodup) : l₁.Nodup := by
  obtain ⟨l, hp, hl⟩ := h
  exact hp.nodup_iff.mp (hn.sublist hl)

/-- besides the invariant: a file past the gate after a step was there before, or the step is its `gate` -/
theorem step_spec {s s' : St} {a : Step} (hI : Inv s) (h : step true s a = some s') :
    Inv s' ∧ ∀ g ∈ s'.passed.map Prod.fst ++ s'.counted, g ∈ s.passed.map Prod.fst ++ s.counted ∨ ∃ ok, a = .gate g ok := by
  cases a with
  | gate f ok =>
    simp only [step, ↓reduceIte] at h
    split at h <;> cases h
    · exact ⟨hI, fun _ => .inl⟩
    · rename_i hnd
      have hnew : f ∉ s.passed.map Prod.fst ++ s.counted := fun hm => hnd (hI.isdone f hm)
      -- `List.map` and `++` compute on the new head `(f, ok)`
      have hnodup : (f :: (s.passed.map Prod.fst ++ s.counted)).Nodup := List.nodup_cons.mpr ⟨hnew, hI.nodup⟩
      refine ⟨{ hI with nodup := hnodup, isdone := fun g hg => ?isdone }, fun g hg => ?origin⟩
      case isdone =>
        rcases List.mem_cons.mp hg with rfl | hg
        · exact List.mem_cons_self
        · exact List.mem_cons_of_mem _ (hI.isdone g hg)
      case origin =>
        rcases List.mem_cons.mp hg with rfl | hg
        · exact .inr ⟨ok, rfl⟩
        · exact .inl hg
  | set f ok =>
    -- with the atomic gate `testing` is empty, so `set` cannot fire
    simp [step, hI.notest] at h
  | count f ok =>
    simp only [step] at h
    split at h <;> cases h
    rename_i hm
    have hsub := (count_subperm hm).subset
    exact ⟨{ hI with nodup := nodup_of_subperm (count_subperm hm) hI.nodup, isdone := fun g hg => hI.isdone g (hsub hg),
                     count := by cases ok <;> simp [hI.count] }, fun g hg => .inl (hsub hg)⟩

theorem inv_step {s s' : St} {a : Step} (hI : Inv s) (h : step true s a = some s') : Inv s' := (step_spec hI h).1

theorem run_induct {Q : St → Prop} {s s' : St} {as : List Step}
    (hstep : ∀ a ∈ as, ∀ s s1, Q s → step true s a = some s1 → Q s1) (hs : Q s) (h : run true s as = some s') : Q s' :=
  run_keeps (nil := fun _ => rfl) (cons := fun s a as => by rw [run]; cases step true s a <;> rfl) (hstep := hstep) hs h

theorem inv_run {s s' : St} {as : List Step} (hI : Inv s) (h : run true s as = some s') : Inv s' :=
  run_induct (hstep := fun _ _ _ _ hI h1 => inv_step hI h1) hI h

/-- only files whose `gate` step occurs in the run are ever counted -/
theorem counted_from_gates {P : Nat → Prop} {s s' : St} {as : List Step} (hI : Inv s)
    (hs : ∀ f ∈ s.passed.map Prod.fst ++ s.counted, P f) (hg : ∀ f ok, Step.gate f ok ∈ as → P f)
    (h : run true s as = some s') : ∀ f ∈ s'.passed.map Prod.fst ++ s'.counted, P f := by
  -- the invariant is carried along because `step_spec` needs it
  have hrun : Inv s' ∧ ∀ f ∈ s'.passed.map Prod.fst ++ s'.counted, P f := by
    refine run_induct (Q := fun s => Inv s ∧ ∀ f ∈ s.passed.map Prod.fst ++ s.counted, P f) (hstep := ?_) ⟨hI, hs⟩ h
    intro a ha t t' ⟨hIt, hPt⟩ hstep
    obtain ⟨hIt', horigin⟩ := step_spec hIt hstep
    refine ⟨hIt', fun g hm => ?_⟩
    rcases horigin g hm with hold | ⟨ok, rfl⟩
    · exact hPt g hold
    · exact hg g ok ha
  exact hrun.2

end TV.Once
