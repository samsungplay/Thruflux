import ThruVerif.Model.Admission
import ThruVerif.Gen.Shapes
import Mathlib.Data.List.Nodup
import Mathlib.Data.List.Perm.Subperm
/-!
# C12 — The host serves at most max-receivers at once, the rest in arrival order

`Inv` is proved for the initial state and preserved by every event, hence holds after every prefix of
every event history (`C12_reachable`), for every `max` and every number of receivers.

Queue and slot table follow the statuses receiver by receiver (`mem_iff_upd`); slot table and running transfers are tied by
`Slots`, a statement about the two lists and the generation counter alone, on which every event acts by one list operation.
-/
namespace TV.C12
open TV.Admission

structure Inv (s : St) : Prop where
  qnodup : s.queue.Nodup
  qstat : ∀ p, p ∈ s.queue ↔ s.status p = some .queued
  anodup : (s.active.map (·.1)).Nodup
  astat : ∀ p, p ∈ s.active.map (·.1) ↔ s.status p = some .transferring
  cap : s.active.length ≤ s.max
  arun : ∀ p g, (p, g) ∈ s.active ↔ (⟨p, g, false⟩ : Run) ∈ s.running
  gens : ∀ r ∈ s.running, r.gen < s.nextGen
  rnodup : (s.running.map (·.gen)).Nodup

/-- a queued receiver waits only while every slot is busy (with `Inv.cap`: exactly `max` are busy) -/
def Eager (s : St) : Prop := s.queue ≠ [] → s.max ≤ s.active.length

theorem inv_init (max ttl : Nat) : Inv (init max ttl) := by
  constructor <;> simp [init]

theorem upd_same {α} (f : Nat → α) (k : Nat) (v : α) : upd f k v k = v := by simp [upd]
theorem upd_other {α} (f : Nat → α) (k : Nat) (v : α) (x : Nat) (h : x ≠ k) : upd f k v x = f x := by simp [upd, h]

/-- how `Inv.qstat` and `Inv.astat` survive an event: the status changes at one receiver `k`, and the list in step with it -/
theorem mem_iff_upd {α} {st : Nat → α} {c : α} {l l' : List Nat} {k : Nat} {v : α}
    (h : ∀ p, p ∈ l ↔ st p = c) (hk : k ∈ l' ↔ v = c) (hne : ∀ p, p ≠ k → (p ∈ l' ↔ p ∈ l)) (p : Nat) :
    p ∈ l' ↔ upd st k v p = c := by
  by_cases hp : p = k
  · rw [hp, upd_same]; exact hk
  · rw [upd_other _ _ _ _ hp]; exact (hne p hp).trans (h p)

theorem ite_none_eq_some {α} {o : Option α} {b : Bool} {c : α} (hb : o = some c → b = false) :
    (if b = true then none else o) = some c ↔ o = some c :=
  Option.ite_none_left_eq_some.trans (and_iff_right_of_imp fun h => Bool.eq_false_iff.mp (hb h))

theorem nodup_snoc {α} {l : List α} {a : α} : (l ++ [a]).Nodup ↔ a ∉ l ∧ l.Nodup :=
  List.nodup_append_comm.trans List.nodup_cons

theorem not_mem_filter_ne {l : List Nat} {a : Nat} : a ∉ l.filter (· ≠ a) :=
  fun h => of_decide_eq_true (List.mem_filter.mp h).2 rfl

theorem not_mem_map_filter_ne {α} {f : α → Nat} {l : List α} {b : Nat} : b ∉ (l.filter (f · ≠ b)).map f := fun h => by
  obtain ⟨x, hx, e⟩ := List.mem_map.mp h
  exact of_decide_eq_true (List.mem_filter.mp hx).2 e

theorem mem_map_filter {α β} {f : α → β} {q : α → Bool} {l : List α} {b : β} (hq : ∀ a ∈ l, f a = b → q a = true) :
    b ∈ (l.filter q).map f ↔ b ∈ l.map f := by
  simp only [List.mem_map, List.mem_filter]
  exact exists_congr fun a => and_congr_left fun e => and_iff_left_of_imp fun ha => hq a ha e

theorem cancelGen_gens (g : Nat) (rs : List Run) : (cancelGen g rs).map (·.gen) = rs.map (·.gen) := by
  rw [cancelGen, List.map_map]
  exact List.map_congr_left fun r _ => by rw [Function.comp_apply]; split <;> rfl

theorem mem_cancelGen_live {g : Nat} {rs : List Run} {p g' : Nat} :
    (⟨p, g', false⟩ : Run) ∈ cancelGen g rs ↔ ⟨p, g', false⟩ ∈ rs ∧ g' ≠ g := by
  rw [cancelGen, List.mem_map]
  constructor
  · rintro ⟨r, hr, he⟩
    split at he
    · cases he
    · subst he; exact ⟨hr, ‹_›⟩
  · exact fun ⟨hr, hne⟩ => ⟨_, hr, if_neg hne⟩

/-- The part of `Inv` about slots and transfers: the slot table is exactly the set of running, un-cancelled transfers,
generations are unique and below the next one. The events act on it by list operations alone. -/
structure Slots (a : List (Nat × Nat)) (rs : List Run) (n : Nat) : Prop where
  arun : ∀ p g, (p, g) ∈ a ↔ (⟨p, g, false⟩ : Run) ∈ rs
  gens : ∀ r ∈ rs, r.gen < n
  rnodup : (rs.map (·.gen)).Nodup

theorem Inv.slots {s : St} (h : Inv s) : Slots s.active s.running s.nextGen := { h with }

theorem Inv.disjoint {s : St} (h : Inv s) {p : Nat} (hq : p ∈ s.queue) (ha : p ∈ s.active.map (·.1)) : False :=
  nomatch ((h.qstat p).mp hq).symm.trans ((h.astat p).mp ha)

namespace Slots

theorem live_mem {a rs n} (h : Slots a rs n) {r : Run} (hr : r ∈ rs) (hc : r.cancelled = false) : (r.peer, r.gen) ∈ a :=
  (h.arun _ _).mpr (by cases r; cases hc; exact hr)

/-- the un-cancelled running transfers inject into the slot table -/
theorem live_le {a rs n} (h : Slots a rs n) : (rs.filter (fun r => !r.cancelled)).length ≤ a.length := by
  have hnd : ((rs.filter (fun r => !r.cancelled)).map (fun r => (r.peer, r.gen))).Nodup :=
    List.Nodup.of_map Prod.snd (by rw [List.map_map]; exact h.rnodup.sublist (List.filter_sublist.map _))
  rw [← List.length_map (fun r : Run => (r.peer, r.gen))]
  refine (List.subperm_of_subset hnd fun x hx => ?_).length_le
  obtain ⟨r, hr, rfl⟩ := List.mem_map.mp hx
  obtain ⟨hr, hc⟩ := List.mem_filter.mp hr
  exact h.live_mem hr (by simpa using hc)

theorem start {a rs n} (h : Slots a rs n) (p : Nat) : Slots (a ++ [(p, n)]) (rs ++ [⟨p, n, false⟩]) (n + 1) where
  arun p' g' := by simp [h.arun]
  gens r hr := by
    rcases List.mem_append.mp hr with hr | hr
    · exact Nat.lt_succ_of_lt (h.gens r hr)
    · rw [List.mem_singleton.mp hr]; exact Nat.lt_succ_self _
  rnodup := by
    rw [List.map_append]
    refine nodup_snoc.mpr ⟨fun hm => ?_, h.rnodup⟩
    obtain ⟨r, hr, hg⟩ := List.mem_map.mp hm
    exact Nat.lt_irrefl _ (hg ▸ h.gens r hr)

/-- a transfer function returns: its run goes, and its slot if it still holds one -/
theorem finish {a rs n} (h : Slots a rs n) {r : Run} (hr : r ∈ rs) :
    Slots (a.filter (· ≠ (r.peer, r.gen))) (rs.filter (·.gen ≠ r.gen)) n where
  arun p g := by
    simp only [List.mem_filter, decide_eq_true_eq, h.arun]
    -- whatever runs under the generation of `r` is `r`
    refine and_congr_right fun hm => not_congr ⟨fun e => (Prod.mk.inj e).2, fun e => ?_⟩
    rw [← List.inj_on_of_nodup_map h.rnodup hm hr e]
  gens r' hr' := h.gens r' (List.mem_of_mem_filter hr')
  rnodup := h.rnodup.sublist (List.filter_sublist.map _)

/-- a receiver leaves: its slot goes, the transfer in it is cancelled -/
theorem leave {a rs n} (h : Slots a rs n) (hnd : (a.map (·.1)).Nodup) (p : Nat) :
    Slots (a.filter (·.1 ≠ p)) (match a.find? (·.1 = p) with | some (_, g) => cancelGen g rs | none => rs) n := by
  split
  next p0 g hf =>
    have hm : (p0, g) ∈ a := List.mem_of_find?_eq_some hf
    have hp : p0 = p := by simpa using List.find?_some hf
    subst hp
    exact {
      arun := fun p' g' => by
        rw [mem_cancelGen_live, ← h.arun, List.mem_filter, decide_eq_true_eq]
        -- two slots belong to the same receiver iff they have the same generation
        refine and_congr_right fun hm' => not_congr ⟨fun e => ?_, fun e => ?_⟩
        · exact congrArg Prod.snd (List.inj_on_of_nodup_map hnd hm' hm e)
        · exact congrArg Run.peer (List.inj_on_of_nodup_map h.rnodup ((h.arun _ _).mp hm') ((h.arun _ _).mp hm) e)
      gens := (List.forall_mem_map (P := (· < n))).mp (by rw [cancelGen_gens]; exact List.forall_mem_map.mpr h.gens)
      rnodup := by rw [cancelGen_gens]; exact h.rnodup }
  next hf =>
    rw [List.filter_eq_self.mpr fun x hx => by simpa using List.find?_eq_none.mp hf x hx]
    exact h

end Slots

/-! `fun_induction maybeStart`. `case1`-`case3`: the loop stops (no fuel, no free slot, empty queue); `case4`, `case5`: the head of the
queue is dropped (status unknown, being served); `case6`: it is started. -/

theorem maybeStart_max (now fuel : Nat) (s : St) : (maybeStart now fuel s).max = s.max := by
  fun_induction maybeStart now fuel s
  case case1 | case2 | case3 => rfl
  all_goals assumption

theorem maybeStart_inv (now fuel : Nat) (s : St) (h : Inv s) : Inv (maybeStart now fuel s) := by
  fun_induction maybeStart now fuel s
  case case1 | case2 | case3 => exact h
  case case4 p _ hq hst _ | case5 p _ hq hst _ =>
    -- the head of the queue is `queued`: it is not passed over
    have := (h.qstat p).mp (hq ▸ List.mem_cons_self)
    rw [hst] at this; cases this
  case case6 s hfree p q hq _ _ _ ih =>
    obtain ⟨hpq, hqnd⟩ : p ∉ q ∧ q.Nodup := List.nodup_cons.mp (hq ▸ h.qnodup)
    have hlt : s.active.length < s.max := Nat.lt_of_not_le hfree
    have hpa : p ∉ s.active.map (·.1) := h.disjoint (hq ▸ List.mem_cons_self)
    have hmap : (s.active ++ [(p, s.nextGen)]).map (·.1) = s.active.map (·.1) ++ [p] := List.map_append
    exact ih { h.slots.start p with
      qnodup := hqnd
      qstat := mem_iff_upd h.qstat (iff_of_false hpq nofun) fun x hx => by rw [hq, List.mem_cons, or_iff_right hx]
      anodup := hmap ▸ nodup_snoc.mpr ⟨hpa, h.anodup⟩
      astat := hmap ▸ mem_iff_upd h.astat (iff_of_true (List.mem_append_right _ (List.mem_singleton_self p)) rfl)
        fun x hx => by rw [List.mem_append, List.mem_singleton, or_iff_left hx]
      cap := by rw [List.length_append, List.length_singleton]; exact Nat.succ_le_of_lt hlt }

/-- `maybeStartTransfers` (fuel ≥ queue length) stops only with an empty queue or a full slot table -/
theorem maybeStart_eager (now fuel : Nat) (s : St) (hf : s.queue.length ≤ fuel) :
    Eager (maybeStart now fuel s) := by
  fun_induction maybeStart now fuel s
  case case1 => exact fun hne => absurd (List.eq_nil_of_length_eq_zero (Nat.le_zero.mp hf)) hne
  case case2 hfull => exact fun _ => hfull
  case case3 hq => exact fun hne => absurd hq hne
  case case4 hq _ ih | case5 hq _ ih | case6 hq _ _ _ ih => rw [hq] at hf; exact ih (Nat.le_of_succ_le_succ hf)

/-- `maybeStartTransfers` serves from the head: what is left of the queue is a suffix of it -/
theorem maybeStart_suffix (now fuel : Nat) (s : St) : (maybeStart now fuel s).queue <:+ s.queue := by
  fun_induction maybeStart now fuel s
  case case1 | case2 | case3 => exact List.suffix_refl _
  case case4 hq _ ih | case5 hq _ ih | case6 hq _ _ _ ih => rw [hq]; exact ih.trans (List.suffix_cons _ _)

theorem maybeStart_started (now fuel : Nat) (s : St) {p : Nat} (hp : p ∈ (maybeStart now fuel s).active.map (·.1)) :
    p ∈ s.active.map (·.1) ∨ p ∈ s.queue := by
  fun_induction maybeStart now fuel s
  case case1 | case2 | case3 => exact Or.inl hp
  case case4 hq _ ih | case5 hq _ ih => rw [hq]; exact (ih hp).imp_right (List.mem_cons_of_mem _)
  case case6 hq _ _ _ ih =>
    rw [hq]
    rcases ih hp with h | h
    · rw [List.map_append, List.mem_append, List.map_singleton, List.mem_singleton] at h
      exact h.imp_right fun e => List.mem_cons.mpr (Or.inl e)
    · exact Or.inr (List.mem_cons_of_mem _ h)

/-- has accepted and is waiting for a slot or being served -/
def Waits (o : Option Status) : Prop := o = some .queued ∨ o = some .transferring

theorem waits_upd {st : Nat → Option Status} {p k : Nat} {v : Option Status} (h : Waits (st p)) (hk : p = k → Waits v) :
    Waits (upd st k v p) := by
  by_cases hp : p = k
  · rw [hp, upd_same]; exact hk hp
  · rw [upd_other _ _ _ _ hp]; exact h

theorem maybeStart_keeps (now fuel : Nat) (s : St) (p : Nat) (h : Waits (s.status p)) :
    Waits ((maybeStart now fuel s).status p) := by
  fun_induction maybeStart now fuel s
  case case1 | case2 | case3 => exact h
  case case4 ih | case5 ih => exact ih h
  case case6 ih => exact ih (waits_upd h fun _ => Or.inr rfl)

theorem inv_joined {s : St} (h : Inv s) (p now : Nat) : Inv (step s (.joined p now)) := by
  refine { h with qstat := mem_iff_upd h.qstat ?_ fun _ _ => Iff.rfl, astat := mem_iff_upd h.astat ?_ fun _ _ => Iff.rfl }
  -- a join keeps `queued` / `transferring` and otherwise sets `joined`, which is neither
  · refine (h.qstat p).trans ?_; split <;> simp_all
  · refine (h.astat p).trans ?_; split <;> simp_all

theorem inv_accept {s : St} (h : Inv s) (p now : Nat) : Inv (step s (.accept p now)) := by
  rw [step]
  split
  · exact maybeStart_inv _ _ _ { h with }
  next hnt =>
    refine maybeStart_inv _ _ _ { h with
      qnodup := ?_
      qstat := mem_iff_upd h.qstat (iff_of_true ?_ rfl) fun x hx => ?_
      astat := mem_iff_upd h.astat (iff_of_false (fun hc => hnt ((h.astat p).mp hc)) nofun) fun _ _ => Iff.rfl }
    -- each by cases: `p` already queued / appended
    · split
      · exact h.qnodup
      · exact nodup_snoc.mpr ⟨‹_›, h.qnodup⟩
    · split
      · assumption
      · simp
    · split
      · rfl
      · simp [hx]

theorem inv_left {s : St} (h : Inv s) (p now : Nat) : Inv (step s (.left p now)) := by
  have hsub : (s.active.filter (·.1 ≠ p)).Sublist s.active := List.filter_sublist
  -- the leaver's new status is neither `queued` nor `transferring`, and both filters remove it and nobody else
  refine maybeStart_inv _ _ _ { h.slots.leave h.anodup p with
    qnodup := h.qnodup.filter _
    qstat := mem_iff_upd h.qstat (iff_of_false not_mem_filter_ne (by split <;> nofun)) fun x hx =>
      List.mem_filter.trans (and_iff_left (decide_eq_true hx))
    anodup := h.anodup.sublist (hsub.map _)
    astat := mem_iff_upd h.astat (iff_of_false not_mem_map_filter_ne (by split <;> nofun)) fun x hx =>
      mem_map_filter fun a _ e => decide_eq_true (e ▸ hx)
    cap := Nat.le_trans hsub.length_le h.cap }

theorem inv_finished {s : St} (h : Inv s) (g : Nat) (ok : Bool) (now : Nat) : Inv (step s (.finished g ok now)) := by
  rw [step]
  split
  · exact h
  next r hf =>
    have hr : r ∈ s.running := List.mem_of_find?_eq_some hf
    have hg : r.gen = g := by simpa using List.find?_some hf
    subst hg
    split
    next hact =>
      -- the transfer still holds its slot, so its receiver is being served
      have hst : s.status r.peer = some .transferring := (h.astat r.peer).mp (List.mem_map_of_mem hact)
      have hsub : (s.active.filter (· ≠ (r.peer, r.gen))).Sublist s.active := List.filter_sublist
      simp only [hst]
      refine maybeStart_inv _ _ _ { h.slots.finish hr with
        qnodup := h.qnodup
        qstat := mem_iff_upd h.qstat (iff_of_false (fun hc => ?_) (by cases ok <;> nofun)) fun _ _ => Iff.rfl
        anodup := h.anodup.sublist (hsub.map _)
        astat := mem_iff_upd h.astat (iff_of_false (fun hc => ?_) (by cases ok <;> nofun)) fun x hx => ?_
        cap := Nat.le_trans hsub.length_le h.cap }
      · exact h.disjoint hc (List.mem_map_of_mem hact)
      · -- the slot removed was its only one
        obtain ⟨x, hx, he⟩ := List.mem_map.mp hc
        obtain ⟨hxa, hxne⟩ := List.mem_filter.mp hx
        exact of_decide_eq_true hxne (List.inj_on_of_nodup_map h.anodup hxa hact he)
      · exact mem_map_filter fun a _ (e : a.1 = x) => decide_eq_true fun e' => hx (e.symm.trans (congrArg Prod.fst e'))
    next hnact =>
      -- stale: the slot was released when the receiver left, only the run goes
      have hs := h.slots.finish hr
      have hall : ∀ x ∈ s.active, decide (x ≠ (r.peer, r.gen)) = true := fun x hx => decide_eq_true fun e => hnact (e ▸ hx)
      rw [List.filter_eq_self.mpr hall] at hs
      exact maybeStart_inv _ _ _ { hs, h with }

/-- the clean-up tick, with the one thing the proofs need of `expired` -/
theorem step_tick (s : St) (now : Nat) : ∃ expired : Nat → Bool, (∀ p, Waits (s.status p) → expired p = false) ∧
    step s (.tick now) = { s with status := fun p => if expired p then none else s.status p,
                                  queue := s.queue.filter (fun p => !expired p) } := by
  refine ⟨_, fun p hw => ?_, rfl⟩
  rcases hw with hw | hw <;> simp only [hw]

theorem inv_tick {s : St} (h : Inv s) (now : Nat) : Inv (step s (.tick now)) := by
  obtain ⟨expired, hexp, heq⟩ := step_tick s now
  -- nobody in the queue expires, so the filter of the tick keeps the queue as it is
  have hqueue : s.queue.filter (fun p => !expired p) = s.queue :=
    List.filter_eq_self.mpr fun p hm => (Bool.not_eq_true' _).mpr (hexp p (Or.inl ((h.qstat p).mp hm)))
  rw [heq, hqueue]
  exact { h with
    qstat := fun p => (h.qstat p).trans (ite_none_eq_some fun hst => hexp p (Or.inl hst)).symm
    astat := fun p => (h.astat p).trans (ite_none_eq_some fun hst => hexp p (Or.inr hst)).symm }

theorem step_inv (s : St) (e : Ev) (h : Inv s) : Inv (step s e) := by
  cases e with
  | joined p now => exact inv_joined h p now
  | accept p now => exact inv_accept h p now
  | left p now => exact inv_left h p now
  | finished g ok now => exact inv_finished h g ok now
  | tick now => exact inv_tick h now

/-- The invariant holds after every event history. -/
theorem C12_reachable (max ttl : Nat) (evs : List Ev) : Inv (run (init max ttl) evs) := by
  suffices ∀ s, Inv s → Inv (run s evs) from this _ (inv_init max ttl)
  induction evs with
  | nil => exact fun s h => h
  | cons e es ih => exact fun s h => ih _ (step_inv s e h)

/-! `fun_cases step s e`. `case1`: join; `case2`, `case3`: accept (already being served, otherwise); `case4`: leave; `case5`-`case7`: a transfer
returns (unknown generation, still holding its slot, stale); `case8`: tick. `case2`-`case4`, `case6` and `case7` end in the start loop. -/

theorem max_const (s : St) (e : Ev) : (step s e).max = s.max := by
  fun_cases step s e
  case case1 | case5 | case8 => rfl
  all_goals exact maybeStart_max _ _ _

/-- Never more simultaneous (un-cancelled) transfers than `max`; the slot table is exactly
    the set of running, un-cancelled transfers. -/
theorem C12_cap (s : St) (h : Inv s) :
    (s.running.filter (fun r => !r.cancelled)).length ≤ s.max ∧ s.active.length ≤ s.max :=
  ⟨Nat.le_trans h.slots.live_le h.cap, h.cap⟩

/-- Every receiver is in at most one of queued / transferring / done / failed, and the
    queue and the slot table say the same as the statuses. -/
theorem C12_exclusive (s : St) (h : Inv s) (p : Nat) :
    (p ∈ s.queue ↔ s.status p = some .queued) ∧ (p ∈ s.active.map (·.1) ↔ s.status p = some .transferring) ∧
    s.queue.Nodup ∧ ¬ (p ∈ s.queue ∧ p ∈ s.active.map (·.1)) :=
  ⟨h.qstat p, h.astat p, h.qnodup, fun ⟨hq, ha⟩ => h.disjoint hq ha⟩

/-- After accept / leave / transfer end, nobody waits while a slot is free; join and
    idle-cleanup keep that. -/
theorem C12_eager (s : St) (e : Ev) (he : Eager s) : Eager (step s e) := by
  fun_cases step s e
  case case1 | case5 => exact he
  case case8 =>
    -- nobody is started, and the queue only shrinks
    exact fun hne => he fun hq => hne (by rw [hq]; rfl)
  all_goals exact maybeStart_eager _ _ _ (Nat.le_refl _)

/-- After a receiver left it is neither queued nor in a slot, and every transfer still
    running for it has been cancelled. -/
theorem C12_leave (s : St) (p now : Nat) (h : Inv s) :
    p ∉ (step s (.left p now)).queue ∧ p ∉ (step s (.left p now)).active.map (·.1) ∧
    ∀ r ∈ (step s (.left p now)).running, r.peer = p → r.cancelled = true := by
  have hq : p ∉ (step s (.left p now)).queue := fun hm => not_mem_filter_ne ((maybeStart_suffix _ _ _).subset hm)
  have ha : p ∉ (step s (.left p now)).active.map (·.1) := fun hm =>
    (maybeStart_started _ _ _ hm).elim not_mem_map_filter_ne not_mem_filter_ne
  refine ⟨hq, ha, fun r hr hp => ?_⟩
  -- an un-cancelled transfer holds a slot
  cases hc : r.cancelled with
  | true => rfl
  | false => exact absurd (List.mem_map.mpr ⟨_, (step_inv s _ h).slots.live_mem hr hc, hp⟩) ha

-- non-vacuity: a concrete history through all event kinds reaches a state with a busy slot and a waiting receiver
example : (run (init 1 600) [.joined 1 0, .accept 1 0, .joined 2 0, .accept 2 0]).queue = [2] ∧
    (run (init 1 600) [.joined 1 0, .accept 1 0, .joined 2 0, .accept 2 0]).active = [(1, 0)] := by decide

/-- the P11 history (stale finish after leave + re-accept) no longer frees the new slot -/
example : ((run (init 1 600) [.accept 1 0, .left 1 0, .accept 1 0, .accept 2 0, .finished 0 false 0]).running.filter
    (fun r => !r.cancelled)).length = 1 := by decide

/-! ### a waiting receiver keeps its place until it is served or leaves -/

/-- A receiver that accepted and is waiting for a slot leaves the queue in two ways only: it is started, or it
    leaves. No other event - another receiver's join, accept, leave or transfer end, and no idle clean-up tick however late - drops it. -/
theorem C12_waiting_kept (s : St) (h : Inv s) (p : Nat) (hq : s.status p = some .queued) (e : Ev) (hne : ∀ now, e ≠ .left p now) :
    (step s e).status p = some .queued ∨ (step s e).status p = some .transferring := by
  have hw : Waits (s.status p) := Or.inl hq
  cases e with
  | joined q now =>
    refine waits_upd hw fun e => ?_
    rw [← e, hq]; exact Or.inl rfl
  | accept q now =>
    rw [step]
    split
    · exact maybeStart_keeps _ _ _ _ hw
    · exact maybeStart_keeps _ _ _ _ (waits_upd hw fun _ => Or.inl rfl)
  | left q now => exact maybeStart_keeps _ _ _ _ (waits_upd hw fun e => absurd (e ▸ rfl) (hne now))
  | finished g ok now =>
    rw [step]
    split
    · exact hw
    next r _ =>
      split
      next hact =>
        -- the receiver whose transfer ends is being served, so it is not `p`
        have hst := (h.astat r.peer).mp (List.mem_map_of_mem hact)
        simp only [hst]
        refine maybeStart_keeps _ _ _ _ (waits_upd hw fun e => ?_)
        rw [← e, hq] at hst; cases hst
      · exact maybeStart_keeps _ _ _ _ hw
  | tick now =>
    obtain ⟨expired, hexp, heq⟩ := step_tick s now
    rw [heq]
    exact Or.inl ((ite_none_eq_some fun _ => hexp p hw).mpr hq)

/-- Whatever the event, the receivers still waiting afterwards are the tail of the waiting line as the event
    left it (the accepted receiver appended, the leaver removed): slots are handed out from the head of the line, nobody overtakes. -/
theorem C12_served_in_order (s : St) (e : Ev) :
    ∃ line, (step s e).queue <:+ line ∧
      line = (match e with
        | .accept p _ => if s.status p = some .transferring ∨ p ∈ s.queue then s.queue else s.queue ++ [p]
        | .left p _ => s.queue.filter (· ≠ p)
        | .tick now => (step s (.tick now)).queue
        | _ => s.queue) := by
  refine ⟨_, ?_, rfl⟩
  fun_cases step s e
  case case1 | case5 | case8 => exact List.suffix_refl _
  case case2 ht _ => simp only [if_pos (Or.inl ht)]; exact maybeStart_suffix _ _ _
  case case3 hnt => simp only [or_iff_right hnt]; exact maybeStart_suffix _ _ _
  all_goals exact maybeStart_suffix _ _ _

/-- premises satisfiable: one slot, receiver 0 is served, receiver 1 waits; twenty clean-up periods later it still waits, and is started
    the moment 0's transfer ends -/
example : ((run (init 1 10) [.accept 0 0, .accept 1 0, .tick 300]).status 1,
           (run (init 1 10) [.accept 0 0, .accept 1 0, .tick 300, .finished 0 true 301]).status 1) =
    (some .queued, some .transferring) := by decide

/-- the clean-up tick as it was: receiver 1, waiting for the one slot while receiver 0 is served for longer than the idle period, is
    forgotten - it never left, and when the slot frees nobody is started -/
theorem C12_waiting_kept_refuted_before_fix :
    ((runOld (init 1 10) [.accept 0 0, .accept 1 0, .tick 11]).status 1,
     (runOld (init 1 10) [.accept 0 0, .accept 1 0, .tick 11, .finished 0 true 12]).active) = (none, []) := by decide

/-! ## the decision structure of the source, as regenerated on this run (xlate, `Gen/Shapes.lean`) -/

open TV.Gen.Shapes in
/-- admission: the start loop's guards, the slot *identity* test of a returning transfer, and the leave handler -/
theorem C12_source_shapes :
    admission_start = ["len(s.active) >= s.maxRecv || len(s.queue) == 0", "state == nil", "state.Status == ReceiverStatusTransferring"] ∧
    admission_slot_identity = ["s.active[peerID] == slot"] ∧
    admission_left = ["state != nil && state.Status != ReceiverStatusDone", "slot != nil", "slot != nil ; slot.closeFn != nil",
      "slot != nil ; slot.cancel != nil", "queued != peerID"] ∧
    -- the idle clean-up tick decides and deletes inside one critical section (the model's `tick` is one step); receivers being
    -- served and receivers waiting in the queue are passed over
    admission_cleanup = ["now := s.now()", "changed := false", "s.mu.Lock()",
      "for peerID, state := range s.receivers { if state.Status == ReceiverStatusTransferring || state.Status == ReceiverStatusQueued { continue } if now.Sub(state.LastSeen) > s.receiverTTL { delete(s.receivers, peerID) changed = true } }",
      "if changed { filtered := make([]string, 0, len(s.queue)) for _, peerID := range s.queue { if _, ok := s.receivers[peerID]; ok { filtered = append(filtered, peerID) } } s.queue = filtered }",
      "s.mu.Unlock()", "if changed { s.emitChange() }"] := ⟨rfl, rfl, rfl, rfl⟩

end TV.C12
