import ThruVerif.Model.FileSys
import ThruVerif.Gen.Shapes
import ThruVerif.Proofs.BufPool
/-!
# C01 / C02 / C06 (per-file core) — a file finalised ok is byte-identical to the source

`Inv` is an inductive invariant of the per-file system of `Model/FileSys.lean`; `C01_file_fidelity` is its
consequence: whenever the receiver finalises a file with ok = true - under any interleaving of sends,
network corruption, deliveries in any order, FileEnd overtaking frames, duplicate and late frames, fresh
or resumed with a sound sidecar, or resumed with a damaged highest chunk - every chunk on disk equals the
source. (`C06_repair` is the resumed case; `C02_corrupt` the corrupted-frame case.)
-/
namespace TV.FileSys

abbrev gb (l : List Bool) (i : Nat) : Bool := l[i]?.getD false
abbrev gn (l : List Nat) (i : Nat) : Nat := l[i]?.getD 0

-- F: a frame whose CRC holds carries a chunk of the file with its source bytes. W, B: a written chunk is good on disk, and so is
-- one whose bit is set, unless it is needed and not yet rewritten. V: on a fresh file every set bit comes from a write.
-- K, P (before the verdict): in flight + received = sent; a sent chunk is written or still in flight.
-- N, E: FileEnd's count is the sender's, and FileEnd follows every needed chunk. D: ok means nothing remaining, every needed chunk written.
structure Inv (s : St) : Prop where
  lenD : s.disk.length = s.src.length
  lenB : s.bits.length = s.src.length
  lenS : s.sent.length = s.src.length
  lenW : s.written.length = s.src.length
  F : ∀ f ∈ s.flight, f.crcOk = true → f.idx < s.src.length ∧ f.pay = gn s.src f.idx
  W : ∀ i, i < s.src.length → gb s.written i = true → gn s.disk i = gn s.src i
  B : ∀ i, i < s.src.length → gb s.bits i = true →
        gn s.disk i = gn s.src i ∨ (gb s.need i = true ∧ gb s.written i = false)
  C : s.remaining = countFalse s.bits
  V : s.verifyAsked = false → ∀ i, i < s.src.length → gb s.bits i = true → gb s.written i = true
  K : s.fin = none → s.flight.length + s.framesRecv = s.sentCount
  P : s.fin = none → ∀ i, i < s.src.length → gb s.sent i = true → gb s.written i = true ∨ ∃ f ∈ s.flight, f.idx = i
  N : ∀ c, s.endSent = some c → c = s.sentCount ∧ ∀ i, i < s.src.length → gb s.need i = true → gb s.sent i = true
  E : s.endReceived = true → s.endSent = some s.endCount
  D : s.fin = some true → s.remaining = 0 ∧ ∀ i, i < s.src.length → gb s.need i = true → gb s.written i = true

theorem countFalse_zero_all (l : List Bool) (h : countFalse l = 0) : ∀ i, i < l.length → gb l i = true := by
  intro i hi
  have := List.filter_eq_nil_iff.mp (List.eq_nil_of_length_eq_zero h) l[i] (List.getElem_mem hi)
  simpa [gb, hi] using this

theorem countFalse_set_true (l : List Bool) (i : Nat) (hi : i < l.length) (hb : gb l i = false) :
    countFalse (l.set i true) + 1 = countFalse l := by
  have hb' : l[i] = false := by simpa [gb, hi] using hb
  have h1 := List.boole_getElem_le_countP (p := (· == false)) hi
  simp only [countFalse, ← List.countP_eq_length_filter, List.countP_set hi]
  rw [hb'] at h1 ⊢
  -- the `if`s of `List.countP_set` evaluate: the old entry `false` counted for 1 (`h1`), `true` counts for 0
  change 1 ≤ _ at h1
  show _ - 1 + 0 + 1 = _
  omega

theorem Inv.all_bits {s : St} (h : Inv s) (hrem : s.remaining = 0) {i : Nat} (hi : i < s.src.length) :
    gb s.bits i = true :=
  countFalse_zero_all _ (h.C ▸ hrem) i (h.lenB ▸ hi)

theorem complete_iff (s : St) : complete s = true ↔
    s.remaining = 0 ∧ (s.verifyAsked = false ∨ s.endReceived = true ∧ s.endCount ≤ s.framesRecv) := by
  simp [complete]

theorem allNeededSent_iff (s : St) :
    allNeededSent s = true ↔ ∀ i, i < s.src.length → gb s.need i = true → gb s.sent i = true := by
  simp only [allNeededSent, List.all_eq_true, List.mem_range, Bool.or_eq_true, Bool.not_eq_true', gb]
  exact forall₂_congr fun i _ => by cases s.need[i]?.getD false <;> simp

/-- the outcomes of `step` as rules (`step_next`), each with the part of its guard that `inv_step` and `fin_final` need -/
inductive Next (s : St) : St → Prop
  | send (i : Nat) (hi : i < s.src.length) (he : s.endSent = none) :
      Next s { s with flight := s.flight ++ [⟨i, gn s.src i, true⟩], sent := s.sent.set i true, sentCount := s.sentCount + 1 }
  | corrupt (k : Nat) (f : Frame) (hk : s.flight[k]? = some f) :
      Next s { s with flight := s.flight.set k { f with pay := 0, crcOk := false } }
  | sendEnd (he : s.endSent = none) (ha : allNeededSent s = true) : Next s { s with endSent := some s.sentCount }
  | endLate (c : Nat) (hc : s.endSent = some c) : Next s { s with endReceived := true, endCount := c }
  | endArrives (c : Nat) (hc : s.endSent = some c) (hf : s.fin = none) :
      Next s (finIfComplete { s with endReceived := true, endCount := c })
  | drain (k : Nat) (hf : s.fin ≠ none) : Next s { s with flight := s.flight.eraseIdx k }
  | reject (k : Nat) (hf : s.fin = none) : Next s { s with flight := s.flight.eraseIdx k, fin := some false }
  | rewrite (k : Nat) (f : Frame) (hk : s.flight[k]? = some f) (hf : s.fin = none) (hok : f.crcOk = true) :
      Next s (finIfComplete { s with
        flight := s.flight.eraseIdx k, disk := s.disk.set f.idx f.pay, written := s.written.set f.idx true,
        framesRecv := s.framesRecv + 1 })
  | write (k : Nat) (f : Frame) (hk : s.flight[k]? = some f) (hf : s.fin = none) (hok : f.crcOk = true)
      (hb : gb s.bits f.idx = false) :
      Next s (finIfComplete { s with
        flight := s.flight.eraseIdx k, disk := s.disk.set f.idx f.pay, written := s.written.set f.idx true,
        framesRecv := s.framesRecv + 1, bits := s.bits.set f.idx true, remaining := s.remaining - 1 })

-- `fun_cases` splits along the branches of `step`, numbered in the order of its definition; those that return `none` contradict `hs`.
-- (`s'` is reverted so that `cases hs` can replace it by the `let`-bound states of `deliver`)
theorem step_next {s s' : St} {a : Step} (hs : step s a = some s') : Next s s' := by
  revert s'
  fun_cases step s a <;> intro s' hs <;> cases hs
  case case1 i hc => exact .send i hc.1 hc.2
  case case3 k f hk => exact .corrupt k f hk
  case case5 hc => exact .sendEnd hc.1 hc.2
  case case9 c hc _ _ => exact .endLate c hc
  case case10 c hc _ hf => exact .endArrives c hc (Option.not_isSome_iff_eq_none.mp hf)
  case case12 k f hk _ hf => exact .drain k fun e => by rw [e] at hf; cases hf
  case case13 k f hk _ hf _ => exact .reject k (Option.not_isSome_iff_eq_none.mp hf)    -- index out of range
  case case14 k f hk _ hf _ _ => exact .reject k (Option.not_isSome_iff_eq_none.mp hf)  -- CRC fails
  case case15 k f hk _ hf _ hok _ _ => exact .rewrite k f hk (Option.not_isSome_iff_eq_none.mp hf) (by simpa using hok)
  case case16 k f hk _ hf _ hok _ hb =>
    exact .write k f hk (Option.not_isSome_iff_eq_none.mp hf) (by simpa using hok) (eq_false_of_ne_true hb)

theorem index_of_mem_of_ne {α} {l : List α} {k : Nat} {a x : α} (hk : l[k]? = some a) (hx : x ∈ l) (hne : x ≠ a) :
    ∃ m, m ≠ k ∧ l[m]? = some x := by
  obtain ⟨m, hm⟩ := List.mem_iff_getElem?.mp hx
  refine ⟨m, fun e => hne ?_, hm⟩
  subst e
  exact Option.some.inj (hm.symm.trans hk)

/-- finalising a complete, not yet finalised file preserves the invariant (this is where the frame
    count carried by FileEnd and the conservation of frames give "every needed chunk was written") -/
theorem finIfComplete_inv (s : St) (h : Inv s) (hf : s.fin = none) : Inv (finIfComplete s) := by
  unfold finIfComplete
  split
  · rename_i hc
    obtain ⟨hrem, hgate⟩ := (complete_iff s).mp hc
    refine { h with K := nofun, P := nofun, D := fun _ => ⟨hrem, fun i hi hneed => ?_⟩ }
    rcases hgate with hva | ⟨her, hcnt⟩
    · -- fresh file: every bit comes from a write, and all bits are set
      exact h.V hva i hi (h.all_bits hrem hi)
    · -- FileEnd's count has been reached, so nothing is in flight: what was sent has been written
      obtain ⟨hc1, hc2⟩ := h.N _ (h.E her)
      have hK := h.K hf
      have hfl : s.flight = [] := List.eq_nil_of_length_eq_zero (by omega)
      rcases h.P hf i hi (hc2 i hi hneed) with hw | ⟨f, hfm, _⟩
      · exact hw
      · rw [hfl] at hfm; cases hfm
  · exact h

/-- a frame leaves the wire unwritten: drained after the verdict (`b = s.fin`), or rejected (`b = some false`) -/
theorem drop_inv {s : St} (h : Inv s) (k : Nat) {b : Option Bool} (hb : b ≠ none) (ht : b = some true → s.fin = some true) :
    Inv { s with flight := s.flight.eraseIdx k, fin := b } :=
  { h with F := fun g hg => h.F g (List.mem_of_mem_eraseIdx hg), K := fun hn => absurd hn hb, P := fun hn => absurd hn hb,
           D := fun hn => h.D (ht hn) }

/-- a CRC-correct frame for a chunk of the file is written and counted; `bits'`, `rem'` record at most this chunk anew -/
theorem write_inv {s : St} (h : Inv s) (hfn : s.fin = none) {k : Nat} {f : Frame} (hk : s.flight[k]? = some f)
    (hok : f.crcOk = true) {bits' : List Bool} {rem' : Nat} (hlen : bits'.length = s.src.length) (hC : rem' = countFalse bits')
    (hb : ∀ i, gb bits' i = true → i = f.idx ∨ gb s.bits i = true) :
    Inv { s with flight := s.flight.eraseIdx k, disk := s.disk.set f.idx f.pay, written := s.written.set f.idx true,
                 framesRecv := s.framesRecv + 1, bits := bits', remaining := rem' } := by
  obtain ⟨hidx, hpay⟩ := h.F f (List.mem_of_getElem? hk) hok
  have hlt := (List.getElem?_eq_some_iff.mp hk).1
  have hK := h.K hfn
  refine { h with lenD := by simp [h.lenD], lenW := by simp [h.lenW], lenB := hlen, C := hC,
                  F := fun g hg => h.F g (List.mem_of_mem_eraseIdx hg),
                  K := fun _ => by simp only [List.length_eraseIdx_of_lt hlt]; omega,
                  D := fun hn => absurd (hfn.symm.trans hn) nofun,
                  W := fun i hi => ?_, B := fun i hi hbi => ?_, V := fun hv i hi hbi => ?_, P := fun _ i hi hsi => ?_ }
  -- each clause first at the written index, where disk and source agree, then at any other, where nothing has moved
  all_goals by_cases e : f.idx = i
  -- W
  · subst e; simp [gn, h.lenD, hidx, hpay]
  · simp only [gb, gn, List.getElem?_set_ne e]; exact h.W i hi
  -- B
  · subst e; left; simp [gn, h.lenD, hidx, hpay]
  · simp only [gb, gn, List.getElem?_set_ne e]; exact h.B i hi ((hb i hbi).resolve_left (Ne.symm e))
  -- V
  · subst e; simp [gb, h.lenW, hidx]
  · simp only [gb, List.getElem?_set_ne e]; exact h.V hv i hi ((hb i hbi).resolve_left (Ne.symm e))
  -- P
  · subst e; simp [gb, h.lenW, hidx]
  · simp only [gb, List.getElem?_set_ne e]
    refine (h.P hfn i hi hsi).imp_right fun ⟨g, hg, hgi⟩ => ⟨g, ?_, hgi⟩
    have hne : g ≠ f := fun eg => e (eg ▸ hgi)
    exact List.mem_eraseIdx_iff_getElem?.mpr (index_of_mem_of_ne hk hg hne)

theorem inv_step (s s' : St) (a : Step) (h : Inv s) (hs : step s a = some s') : Inv s' := by
  cases step_next hs with
  | send i hi he =>
    refine { h with lenS := by simp [h.lenS], F := ?F, K := ?K, P := ?P, N := ?N }
    case F =>
      intro f hfm hok
      rcases List.mem_append.mp hfm with hfm | hfm
      · exact h.F f hfm hok
      · cases List.mem_singleton.mp hfm; exact ⟨hi, rfl⟩
    case K =>
      intro hfin
      have := h.K hfin
      simp only [List.length_append, List.length_singleton]
      omega
    case P => -- chunk `i` is in flight now
      intro hfin j hj hsj
      by_cases e : i = j
      · exact .inr ⟨⟨i, gn s.src i, true⟩, by simp, e⟩
      · simp only [gb, List.getElem?_set_ne e] at hsj
        exact (h.P hfin j hj hsj).imp_right fun ⟨f, hfm, hfi⟩ => ⟨f, List.mem_append_left _ hfm, hfi⟩
    case N =>
      intro c hc; rw [he] at hc; cases hc
  | corrupt k f hk =>
    have hlt := (List.getElem?_eq_some_iff.mp hk).1
    refine { h with F := ?F, K := fun hfin => by simpa using h.K hfin, P := ?P }
    case F =>
      intro g hg hok
      rcases List.mem_or_eq_of_mem_set hg with hg | rfl
      · exact h.F g hg hok
      · cases hok
    case P => -- the damaged frame still stands for its chunk
      intro hfin j hj hsj
      refine (h.P hfin j hj hsj).imp_right fun ⟨g, hg, hgi⟩ => ?_
      by_cases e : g = f
      · exact ⟨_, List.mem_set hlt _, e ▸ hgi⟩
      · obtain ⟨m, hm, hg⟩ := index_of_mem_of_ne hk hg e
        exact ⟨g, List.mem_iff_getElem?.mpr ⟨m, (List.getElem?_set_ne hm.symm).trans hg⟩, hgi⟩
  | sendEnd he ha =>
    refine { h with N := fun c hc => ?_, E := fun her => by rw [h.E her] at he; cases he }
    cases hc
    exact ⟨rfl, (allNeededSent_iff s).mp ha⟩
  | endLate c hc => exact { h with E := fun _ => hc }
  | endArrives c hc hf => exact finIfComplete_inv _ { h with E := fun _ => hc } hf
  | drain k hf => exact drop_inv h k (b := s.fin) (hb := hf) (ht := id)
  | reject k hf => exact drop_inv h k (b := some false) (hb := nofun) (ht := nofun)
  | rewrite k f hk hf hok =>
    exact finIfComplete_inv _ (write_inv h hf hk hok (hlen := h.lenB) (hC := h.C) (hb := fun _ hbi => .inr hbi)) hf
  | write k f hk hf hok hb =>
    refine finIfComplete_inv _ (write_inv h hf hk hok (hlen := by simp [h.lenB]) (hC := ?hC) (hb := fun j hbj => ?hb)) hf
    case hC =>
      have hidx : f.idx < s.src.length := (h.F f (List.mem_of_getElem? hk) hok).1
      have := countFalse_set_true s.bits f.idx (h.lenB ▸ hidx) hb
      have := h.C
      show s.remaining - 1 = _
      omega
    case hb =>
      by_cases e : f.idx = j
      · exact .inl e.symm
      · exact .inr (by simpa [gb, List.getElem?_set_ne e] using hbj)

theorem inv_reachable {s0 s : St} (h0 : Inv s0) (h : Reachable s0 s) : Inv s := by
  induction h with
  | init => exact h0
  | step _ hs ih => exact inv_step _ _ _ ih hs

/-- the consequence of the invariant -/
theorem fidelity_of_inv {s : St} (h : Inv s) (hf : s.fin = some true) :
    ∀ i, i < s.src.length → gn s.disk i = gn s.src i := by
  intro i hi
  obtain ⟨hrem, hneed⟩ := h.D hf
  rcases h.B i hi (h.all_bits hrem hi) with hg | ⟨hn, hw⟩
  · exact hg
  · have := hneed i hi hn; rw [hw] at this; cases this

/-- initial states: a source, whatever is on disk, a bitmap - such that every advertised chunk other
    than the highest one is really on disk (the guarantee of `C05` for states left by a killed run) -/
structure InitOk (src disk0 : List Nat) (bits0 : List Bool) : Prop where
  lenD : disk0.length = src.length
  lenB : bits0.length = src.length
  sound : ∀ i, i < src.length → gb bits0 i = true → highest bits0 ≠ some i → gn disk0 i = gn src i

theorem init_need (src disk0 : List Nat) (bits0 : List Bool) {i : Nat} (hi : i < src.length) :
    gb (init src disk0 bits0).need i = (!gb bits0 i || (highest bits0 == some i && decide (gn disk0 i ≠ gn src i))) := by
  simp [init, gb, gn, List.getElem?_range hi]

theorem inv_init (src disk0 : List Nat) (bits0 : List Bool) (h : InitOk src disk0 bits0) : Inv (init src disk0 bits0) := by
  obtain ⟨hD, hB, hS⟩ := h
  have hrep : ∀ i, gb (List.replicate src.length false) i = false := fun i => by
    simp only [gb, List.getElem?_replicate]; split <;> rfl
  refine { lenD := hD, lenB := hB, lenS := List.length_replicate, lenW := List.length_replicate, F := nofun, C := rfl,
           W := fun i _ hw => ?W, B := fun i hi hb => ?B, V := fun hva i _ hb => ?V, K := fun _ => rfl,
           P := fun _ i _ hs => ?P, N := nofun, E := nofun, D := nofun }
  case W => exact absurd ((hrep i).symm.trans hw) nofun
  case B => -- an advertised chunk is on disk, unless it is the highest one and damaged: then it is needed
    by_cases hg : gn disk0 i = gn src i
    · exact .inl hg
    · have hh : highest bits0 = some i := Decidable.byContradiction fun hh => hg (hS i hi hb hh)
      exact .inr ⟨by rw [init_need src disk0 bits0 hi]; simp [hh, hg], hrep i⟩
  case V => -- nothing was advertised
    have hm : bits0[i]? = some true := (Option.getD_eq_iff.mp hb).resolve_right nofun
    exact (List.any_eq_false.mp hva true (List.mem_of_getElem? hm) rfl).elim
  case P => exact absurd ((hrep i).symm.trans hs) nofun

theorem finIfComplete_src (s : St) : (finIfComplete s).src = s.src := by
  unfold finIfComplete; split <;> rfl

theorem step_src {s s' : St} {a : Step} (hs : step s a = some s') : s'.src = s.src := by
  cases step_next hs with
  | endArrives | rewrite | write => exact finIfComplete_src _
  | _ => rfl

theorem reachable_src {s0 s : St} (h : Reachable s0 s) : s.src = s0.src := by
  induction h with
  | init => rfl
  | step _ hs ih => exact (step_src hs).trans ih

/-- **C01_file_fidelity** (also C06_repair and C02_corrupt). From any initial state whose advertised chunks
    other than the highest are on disk - a fresh file, a sound partial file, or a partial file whose
    highest recorded chunk is damaged - every reachable state in which the receiver has finalised the file
    with ok = true has the source bytes in every chunk. -/
theorem C01_file_fidelity (src disk0 : List Nat) (bits0 : List Bool) (h0 : InitOk src disk0 bits0)
    (s : St) (hr : Reachable (init src disk0 bits0) s) (hf : s.fin = some true) :
    ∀ i, i < src.length → gn s.disk i = gn src i := by
  have hsrc : s.src = src := reachable_src hr
  rw [← hsrc]
  exact fidelity_of_inv (inv_reachable (inv_init src disk0 bits0 h0) hr) hf

/-- A frame damaged in flight never ends up in a file that is finalised ok: delivering it
    finalises the file with ok = false, and that verdict is final (`fin_final`). -/
theorem C02_corrupt (s s' : St) (k : Nat) (f : Frame) (hk : s.flight[k]? = some f) (hbad : f.crcOk = false)
    (hfin : s.fin = none) (hidx : f.idx < s.src.length) (hs : step s (.deliver k) = some s') : s'.fin = some false := by
  simp only [step, hk] at hs
  simp [hfin, hbad, Nat.not_le.mpr hidx] at hs
  rw [← hs]

theorem fin_final (s s' : St) (a : Step) (b : Bool) (hf : s.fin = some b) (hs : step s a = some s') : s'.fin = some b := by
  cases step_next hs with
  | endArrives _ _ hn | reject _ hn | rewrite _ _ _ hn | write _ _ _ hn => rw [hn] at hf; cases hf
  | _ => exact hf

def runSteps (s : St) : List Step → Option St
  | [] => some s
  | a :: as => match step s a with | some s' => runSteps s' as | none => none

-- non-vacuity: a resumed run with a damaged highest chunk (chunk 1 on disk is 0 instead of 8)
example : (init [7, 8, 9] [7, 0, 0] [true, true, false]).need = [false, true, true] := rfl
-- FileEnd overtakes the re-sent chunk: the file is finalised only when that frame has been written too
example : (runSteps (init [7, 8, 9] [7, 0, 0] [true, true, false])
    [.send 2, .send 1, .sendEnd, .deliver 0, .endArrives]).map (·.fin) = some none := rfl
example : (runSteps (init [7, 8, 9] [7, 0, 0] [true, true, false])
    [.send 2, .send 1, .sendEnd, .deliver 0, .endArrives, .deliver 0]).map (fun s => (s.fin, s.disk)) = some (some true, [7, 8, 9]) := rfl
-- the sender may not end before re-sending the damaged chunk
example : (runSteps (init [7, 8, 9] [7, 0, 0] [true, true, false]) [.send 2, .sendEnd]) = none := rfl


/-! ## the whole manifest

Files are independent machines: every chunk frame and every per-file control record carries its file key, the receiver
looks the state up by that key (`recvFileStateMux`), and keys of distinct manifest items are distinct. A manifest-level
state is the list of per-file states in manifest order; a manifest-level step is a per-file step of the file its key
denotes. Interleaving across files, streams and connections is arbitrary. -/

structure FileCfg where
  src : List Nat
  disk0 : List Nat
  bits0 : List Bool

def minit (fs : List FileCfg) : List St := fs.map fun f => init f.src f.disk0 f.bits0

inductive MReach (fs : List FileCfg) : List St → Prop
  | init : MReach fs (minit fs)
  | step {m : List St} {j : Nat} {s s' : St} {a : Step} :
      MReach fs m → m[j]? = some s → step s a = some s' → MReach fs (m.set j s')

/-- every component of a reachable manifest state is reachable in its own per-file system -/
theorem mreach_proj {fs : List FileCfg} {m : List St} (h : MReach fs m) (j : Nat) (f : FileCfg) (s : St)
    (hf : fs[j]? = some f) (hs : m[j]? = some s) : Reachable (init f.src f.disk0 f.bits0) s := by
  induction h generalizing j s with
  | init =>
    simp only [minit, List.getElem?_map, hf, Option.map_some, Option.some.injEq] at hs
    exact hs ▸ .init
  | @step m j' t t' a _ hj ht ih =>
    by_cases e : j' = j
    · subst e
      cases (List.getElem?_set_self (List.getElem?_eq_some_iff.mp hj).1).symm.trans hs
      exact .step (ih j' t hf hj) ht
    · exact ih j s hf ((List.getElem?_set_ne e).symm.trans hs)

/-- a file finalised with ok = true is correct whatever happens to the other files (one failing file cannot make another
    one silently wrong) -/
theorem C01_manifest_file_independent (fs : List FileCfg) (h0 : ∀ f ∈ fs, InitOk f.src f.disk0 f.bits0)
    (m : List St) (hr : MReach fs m) (j : Nat) (f : FileCfg) (s : St) (hf : fs[j]? = some f) (hs : m[j]? = some s)
    (hfin : s.fin = some true) : ∀ i, i < f.src.length → gn s.disk i = gn f.src i :=
  C01_file_fidelity f.src f.disk0 f.bits0 (h0 f (List.mem_of_getElem? hf)) s (mreach_proj hr j f s hf hs) hfin

/-- Whatever the interleaving of the files' frames and records over any number of streams and
    connections: when the receiver has finalised *every* file of the manifest with ok = true (its condition for returning
    success), every chunk of every file holds the source bytes. -/
theorem C01_manifest_fidelity (fs : List FileCfg) (h0 : ∀ f ∈ fs, InitOk f.src f.disk0 f.bits0)
    (m : List St) (hr : MReach fs m) (hall : ∀ s ∈ m, s.fin = some true) :
    ∀ (j : Nat) (f : FileCfg) (s : St), fs[j]? = some f → m[j]? = some s → ∀ i, i < f.src.length → gn s.disk i = gn f.src i :=
  fun j f s hf hs => C01_manifest_file_independent fs h0 m hr j f s hf hs (hall s (List.mem_of_getElem? hs))

-- non-vacuity: two files, frames of the second sent before frames of the first
example : ∃ m, MReach [⟨[7], [0], [false]⟩, ⟨[8, 9], [0, 0], [false, false]⟩] m ∧ (m.map (·.sentCount)) = [1, 1] := by
  refine ⟨_, MReach.step (j := 0) (a := .send 0) (MReach.step (j := 1) (a := .send 1) MReach.init rfl rfl) rfl rfl, ?_⟩
  decide

end TV.FileSys

namespace TV.BufPool

/-! ### chunk buffers shared by the transfers of one sender process (`Model/BufPool`) -/

/-- A buffer of the shared pool is taken, filled by a read-pool goroutine, summed, written and put
back - by any number of workers of any number of transfers one after the other, with cancellations at any moment: as long as a
cancelled reader waits for its queued read before it gives the buffer back (fix e43a242), the checksum of every frame is computed
over the bytes that this frame's own read put there, and nobody writes into a buffer that lies in the pool. -/
theorem C01_checksum_over_own_bytes (as : List Step) (s : St) (h : run true init as = some s) :
    s.wrong = 0 ∧ (s.inPool = true → s.pendingIds = []) := by
  have hI := inv_run inv_init h
  refine ⟨hI.ok, fun hp => ?_⟩
  have hn := hI.pool.mp hp
  rw [hI.pend]
  simp [expectedPending, hn]

/-- premises satisfiable: a transfer cancelled while its read is queued (the read completes, then the cancelled call returns),
followed by a complete cycle of another worker on the same buffer -/
example : ∃ s, run true init [.take, .runRead 0, .cancel, .take, .runRead 1, .result, .sum, .put] = some s ∧ s.wrong = 0 ∧ s.inPool = true :=
  ⟨_, rfl, rfl, rfl⟩

/-- with the mutex a cancelled reader cannot give the buffer back while its read is pending -/
example : run true init [.take, .cancel] = none := rfl

/-- the code before fix e43a242 (the cancelled call returned at once): the abandoned read of the cancelled transfer completes after
the next holder's own read - the checksum is computed over the wrong bytes (the schedule `stalebuf` replays on the real sender) -/
theorem C01_recycled_buffer_refuted_before_fix :
    ∃ s, run false init [.take, .cancel, .take, .runRead 1, .runRead 0, .result, .sum] = some s ∧ s.wrong = 1 := ⟨_, rfl, rfl⟩

open TV.Gen.Shapes in
/-- `readAtWithPool`: once the job is queued, a cancelled call waits for the job's result before it returns (last case); the sender
worker hands the buffer back right after the call - the only read that can target a pooled buffer is one whose caller still holds it -/
theorem C01_source_readpool :
    readpool_selects = ["getReadPool().jobs <- job => ", "<-time.After(10 * time.Minute) => fmt.Fprintf(termio.Stderr(), \"sender read queue timeout after 10m: offset=%d len=%d\\n\", offset, len(buf)); os.Exit(1); return 0, fmt.Errorf(\"sender read queue timeout after 10m\")", "<-ctx.Done() => return 0, ctx.Err()", "res := <-resultCh => return res.n, res.err", "<-time.After(10 * time.Minute) => fmt.Fprintf(termio.Stderr(), \"sender read timeout after 10m: offset=%d len=%d\\n\", offset, len(buf)); os.Exit(1); return 0, fmt.Errorf(\"sender read timeout after 10m\")", "<-ctx.Done() => select { case <-resultCh: case <-time.After(10 * time.Minute): }; return 0, ctx.Err()"] ∧
    readpool_result_chan = ["resultCh := make(chan readResult, 1)"] ∧
    send_read_args = ["transferCtx, f, offset, buf[:chunkLen]"] := ⟨rfl, rfl, rfl⟩

end TV.BufPool
