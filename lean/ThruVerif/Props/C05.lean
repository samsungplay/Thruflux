import ThruVerif.Model.Disk
import ThruVerif.Gen.Order
import ThruVerif.Gen.Shapes
import ThruVerif.Proofs.Flushers
/-!
# C05 — Resume metadata never claims a chunk that is not safely in the file
-/
namespace TV.Disk

/-- A chunk is safely in the file: good and nobody is overwriting it with anything but the source bytes.
    (Writers only ever write source bytes, so `good` is stable; see `beginWrite`.) -/
def Sub (b : BM) (s : State) : Prop := ∀ i, b i = true → s.data i = .good

structure Inv (s : State) : Prop where
  mem  : Sub s.mem s
  disk : ∀ b, s.disk = some b → Sub b s
  tmp  : ∀ b, s.tmp = some b → Sub b s
  snap : (∀ b, s.fl = .snapped b → Sub b s) ∧ (∀ b, s.fl = .wroteTmp b → Sub b s)
  pend : ∀ i, 0 < s.pend i → s.data i = .good
  wr   : ∀ i, s.data i = .torn → 0 < s.wr i ∨ True   -- (torn chunks may survive a crash)

theorem inv_init : Inv init :=
  ⟨nofun, nofun, nofun, ⟨nofun, nofun⟩, nofun, fun _ _ => .inr trivial⟩

/-- `good` is never lost by a step. -/
theorem good_stable (s s' : State) (a : Step) (h : step s a = some s') (i : Nat)
    (hg : s.data i = .good) : s'.data i = .good := by
  cases a <;> simp only [step] at h
  case beginWrite j =>
    cases h
    show (if s.data j = .good then s.data else upd s.data j .torn) i = .good
    split
    · exact hg
    · have : i ≠ j := fun e => ‹¬ s.data j = .good› (e ▸ hg)
      simpa [upd, this] using hg
  case endWrite j =>
    split at h <;> cases h
    show upd s.data j .good i = .good
    unfold upd
    split
    · rfl
    · exact hg
  -- no other step writes to the data file
  all_goals (repeat' split at h) <;> cases h <;> exact hg

theorem sub_stable {b : BM} {s s' : State} {a : Step} (h : step s a = some s') (hb : Sub b s) : Sub b s' :=
  fun i hi => good_stable s s' a h i (hb i hi)

theorem inv_step (s s' : State) (a : Step) (hinv : Inv s) (h : step s a = some s') : Inv s' := by
  have stab : ∀ {b}, Sub b s → Sub b s' := fun hb => sub_stable h hb
  have good := good_stable s s' a h
  obtain ⟨hmem, hdisk, htmp, ⟨hsnap, hwt⟩, hpend, _⟩ := hinv
  have mk : (mem : Sub s'.mem s') → (disk : ∀ b, s'.disk = some b → Sub b s') → (tmp : ∀ b, s'.tmp = some b → Sub b s') →
      (snapped : ∀ b, s'.fl = .snapped b → Sub b s') → (wroteTmp : ∀ b, s'.fl = .wroteTmp b → Sub b s') →
      (pend : ∀ i, 0 < s'.pend i → s'.data i = .good) → Inv s' :=
    fun m d t sn wt p => ⟨m, d, t, ⟨sn, wt⟩, p, fun _ _ => .inr trivial⟩
  -- a bitmap recorded before the step stays sound (`stab`); per step it remains to look at what is recorded anew
  cases a <;> simp only [step] at h
  case beginWrite i =>
    cases h
    exact mk (stab hmem) (fun b hb => stab (hdisk b hb)) (fun b hb => stab (htmp b hb)) (fun b hb => stab (hsnap b hb))
      (fun b hb => stab (hwt b hb)) fun j hj => good j (hpend j hj)
  case endWrite i =>
    split at h <;> cases h
    refine mk (stab hmem) (fun b hb => stab (hdisk b hb)) (fun b hb => stab (htmp b hb)) (fun b hb => stab (hsnap b hb))
      (fun b hb => stab (hwt b hb)) fun j hj => ?_
    by_cases e : j = i
    · simp [upd, e]
    · exact good j (hpend j (by simpa [upd, e] using hj))
  case mark i =>
    split at h
    · split at h <;> cases h
      -- the chunk marked is one whose write has returned
      have hi : s.data i = .good := hpend i (by omega)
      refine mk (mem := fun j hj => ?mem) hdisk htmp hsnap hwt (pend := fun j hj => ?pend)
      case mem =>
        by_cases e : j = i
        · exact e ▸ hi
        · exact hmem j (by simpa [upd, e] using hj)
      case pend =>
        by_cases e : j = i
        · exact e ▸ hi
        · exact hpend j (by simpa [upd, e] using hj)
    · cases h
  case flushBegin =>
    split at h <;> cases h
    exact mk hmem hdisk htmp (snapped := fun b hb => FlushPc.snapped.inj hb ▸ hmem) (wroteTmp := nofun) hpend
  case flushTmpPartial =>
    split at h <;> cases h
    exact mk hmem hdisk (tmp := nofun) hsnap hwt hpend
  case flushTmpDone =>
    split at h <;> cases h
    rename_i b hb
    exact mk hmem hdisk (tmp := fun c hc => Option.some.inj hc ▸ hsnap b hb) (snapped := nofun)
      (wroteTmp := fun c hc => FlushPc.wroteTmp.inj hc ▸ hsnap b hb) hpend
  case flushRename =>
    split at h <;> cases h
    rename_i b hb
    exact mk hmem (disk := fun c hc => Option.some.inj hc ▸ hwt b hb) (tmp := nofun) (snapped := nofun) (wroteTmp := nofun) hpend
  case flushEnd =>
    split at h <;> cases h
    exact mk hmem hdisk htmp (snapped := nofun) (wroteTmp := nofun) hpend
  case crash =>
    cases h
    exact mk (mem := nofun) hdisk htmp (snapped := nofun) (wroteTmp := nofun) (pend := fun j hj => absurd hj (Nat.lt_irrefl 0))
  case restartLoad =>
    split at h <;> cases h
    · rename_i b hb  -- a sidecar `b` is found: it becomes the in-memory bitmap
      exact mk (mem := hdisk b hb) hdisk htmp hsnap hwt hpend
    · exact mk hmem hdisk htmp hsnap hwt hpend

theorem inv_reachable {s : State} (h : Reachable s) : Inv s := by
  induction h with
  | init => exact inv_init
  | step _ hs ih => exact inv_step _ _ _ ih hs

/-- C05 core: whatever is in the sidecar file on disk marks only chunks that are safely in the data file. -/
theorem sidecar_on_disk_sound {s : State} (h : Reachable s) (b : BM) (hb : s.disk = some b) (i : Nat)
    (hi : b i = true) : s.data i = .good :=
  (inv_reachable h).disk b hb i hi

/-- **C05_inv** (headline). In every reachable state - any number of writers interleaved with the flusher,
    a kill at any point, any number of restarts - the sidecar found on disk marks only good chunks. -/
theorem C05_inv {s : State} (h : Reachable s) (b : BM) (hb : s.disk = some b) (i : Nat) (hi : b i = true) :
    s.data i = .good := sidecar_on_disk_sound h b hb i hi

/-- The sidecar file changes only by the rename step, and then to a bitmap that was
    marshalled under the lock and written completely to the temp file; a torn temp file is never installed. -/
theorem C05_atomic (s s' : State) (a : Step) (h : step s a = some s') :
    s'.disk = s.disk ∨ (a = .flushRename ∧ ∃ b, s.fl = .wroteTmp b ∧ s'.disk = some b) := by
  cases a <;> simp only [step] at h
  case flushRename =>
    split at h <;> cases h
    rename_i b hb
    exact .inr ⟨rfl, b, hb, rfl⟩
  -- no other step writes to the sidecar path
  all_goals (repeat' split at h) <;> cases h <;> exact .inl rfl

/-- a kill keeps the sidecar file as it was -/
theorem C05_crash_keeps_disk (s s' : State) (h : step s .crash = some s') : s'.disk = s.disk ∧ s'.data = s.data := by
  simp only [step] at h; cases h; exact ⟨rfl, rfl⟩

/-- after a restart the in-memory bitmap is sound again (it is the on-disk one) -/
theorem C05_restart_sound {s s' : State} (hr : Reachable s) (h : step s .restartLoad = some s') (i : Nat)
    (hi : s'.mem i = true) : s'.data i = .good :=
  (inv_reachable (Reachable.step hr h)).mem i hi

/-- Regenerated from the source (SSA dominator trees): the positional write dominates the
    bit mark in the live reader (also through every helper from which Sidecar.MarkComplete* is reachable) and in the legacy receiver, the CRC check dominates the write, and the temp
    file write dominates the rename. -/
theorem C05_order :
    (TV.Gen.Order.recv_write_before_mark.1 ≥ 1 ∧ TV.Gen.Order.recv_write_before_mark.2.1 ≥ 1 ∧
      TV.Gen.Order.recv_write_before_mark.2.2 = TV.Gen.Order.recv_write_before_mark.2.1) ∧
    (TV.Gen.Order.recv_write_before_any_mark.2.1 ≥ 1 ∧
      TV.Gen.Order.recv_write_before_any_mark.2.2 = TV.Gen.Order.recv_write_before_any_mark.2.1) ∧
    (TV.Gen.Order.recv_crc_before_write.2.1 ≥ 1 ∧ TV.Gen.Order.recv_crc_before_write.2.2 = TV.Gen.Order.recv_crc_before_write.2.1) ∧
    (TV.Gen.Order.legacy_write_before_mark.2.1 ≥ 1 ∧ TV.Gen.Order.legacy_write_before_mark.2.2 = TV.Gen.Order.legacy_write_before_mark.2.1) ∧
    (TV.Gen.Order.flush_tmp_before_rename.2.1 ≥ 1 ∧ TV.Gen.Order.flush_tmp_before_rename.2.2 = TV.Gen.Order.flush_tmp_before_rename.2.1) := by
  decide

/-- what breaks if a writer marked before its write returned: the witness run (mark-then-crash) -/
example : ∃ s, Reachable s ∧ s.disk = none := ⟨init, .init, rfl⟩

end TV.Disk

namespace TV.Flushers

/-! ### several flushers of one sidecar (ticker, `finalizeFile`, the signal handler) - `Model/Flushers` -/

/-- With the sidecar mutex held around the I/O, for any number of flushers, any interleaving of their steps
and kills at any point: what is installed at the sidecar path is nothing or a complete version that some flusher marshalled -
never a truncated or partly written file, so an interrupted update leaves the previous valid version -/
theorem C05_replace_atomic (n : Nat) (as : List Step) (s : St) (h : run true (init n) as = some s) : diskOk s :=
  (inv_run (inv_init n) h).disk

/-- the file at the sidecar path changes only by a rename, to the complete temp file of the flusher that renames -/
theorem C05_replace_only_by_rename (n : Nat) (as : List Step) (s s' : St) (a : Step) (h : run true (init n) as = some s)
    (hs : step true s a = some s') : s'.disk = s.disk ∨ ∃ j b, a = .rename j ∧ s.pcs[j]? = some (Pc.wroteTmp b) ∧ s'.disk = some (File.full b) := by
  cases a with
  | begin_ j b => obtain ⟨_, rfl⟩ := step_begin hs; exact .inl rfl
  | trunc j => obtain ⟨_, _, rfl⟩ := step_trunc hs; exact .inl rfl
  | finish j => obtain ⟨_, _, rfl⟩ := step_finish hs; exact .inl rfl
  | rename j =>
    obtain ⟨b, hp, rfl⟩ := step_rename hs
    -- the temp file is the renaming flusher's own complete one
    have htmp : s.tmp = some (.full b) := ((inv_run (inv_init n) h).wrote j b hp).1
    rw [htmp]
    exact .inr ⟨j, b, rfl, hp, rfl⟩
  | end_ j => obtain ⟨_, rfl⟩ := step_end hs; exact .inl rfl
  | kill => cases step_kill hs; exact .inl rfl

/-- premises satisfiable: two flushers one after the other, a kill between the second one's temp write and its rename -/
example : ∃ s, run true (init 2) [.begin_ 0 5, .trunc 0, .finish 0, .rename 0, .end_ 0, .begin_ 1 7, .trunc 1, .finish 1, .kill] = some s ∧
    s.disk = some (File.full 5) ∧ s.tmp = some (File.full 7) := ⟨_, rfl, rfl, rfl⟩

/-- with the mutex a second flusher cannot start while the first is between its temp write and its rename -/
example : run true (init 2) [.begin_ 0 5, .trunc 0, .finish 0, .begin_ 1 7] = none := by decide

/-- without the mutex around the I/O (a seeded change moved it out): flusher 0 has written the temp file, flusher 1 truncates it,
flusher 0 renames - a truncated file is installed and the previous valid version (5) is gone -/
theorem C05_replace_not_atomic_without_mutex :
    ∃ s, run false (init 2) [.begin_ 0 5, .trunc 0, .finish 0, .rename 0, .end_ 0, .begin_ 0 6, .trunc 0, .finish 0, .begin_ 1 7, .trunc 1, .rename 0] = some s ∧
      s.disk = some (File.torn 1) ∧ ¬ diskOk s := by
  refine ⟨_, rfl, rfl, ?_⟩
  intro h
  rcases h with h | ⟨b, h, _⟩
  · cases h
  · cases h

open TV.Gen.Shapes in
/-- `Sidecar.Flush` takes the sidecar mutex first and releases it when it returns: marshal, temp write, rename and the `dirty`
reset all happen under it (the `mutex = true` instance is the code); the temp name is the fixed `<path>.tmp` -/
theorem C05_source_flush_locked :
    sidecar_flush_head = ["s.mu.Lock()", "defer s.mu.Unlock()"] ∧
    sidecar_flush_io = ["temp := s.Path + \".tmp\"", "verifhook.Point(\"sidecar.between_tmp_and_rename\")", "verifhook.Point(\"sidecar.after_rename\")", "s.dirty = false"] ∧
    sidecar_flush_write_args = ["temp, buf.Bytes(), 0644"] ∧ sidecar_flush_rename_args = ["temp, s.Path"] := ⟨rfl, rfl, rfl, rfl⟩

end TV.Flushers
