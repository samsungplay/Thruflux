import ThruVerif.Model.Hub
import ThruVerif.Gen.Shapes
/-!
# C11 — the signaling hub survives any interleaving of join, leave and send

`Glob` says that the two routing tables hold exactly the ghost specification `live`. An operation's stretch of code is
described once, by an `Effect`; `stepCore_effect` collects these by program counter and operation, and `step_inv` and
`leak_step` lift an `Effect` to the thread table.
-/
namespace TV.C11
open TV.Hub

/-- invariant of everything except the threads. `closures` holds every connection ever added, so `isolated` reads:
queued only for a connection that was added to that session. -/
structure Glob (s : St) : Prop where
  conns_live : ∀ e, e ∈ s.conns ↔ e ∈ s.live
  idx_live : ∀ e, e ∈ s.idx ↔ e ∈ s.live
  peer_uniq : ∀ e1 ∈ s.live, ∀ e2 ∈ s.live, e1.sid = e2.sid → e1.peer = e2.peer → e1 = e2
  live_clos : ∀ e ∈ s.live, e ∈ s.closures
  clos_uniq : ∀ e1 ∈ s.closures, ∀ e2 ∈ s.closures, e1.conn = e2.conn → e1 = e2
  live_reg : ∀ e ∈ s.live, e.sid ∈ s.reg
  live_open : ∀ e ∈ s.live, e.conn ∉ s.gone
  closed_gone : ∀ c ∈ s.closed, c ∈ s.gone
  gone_clos : ∀ c ∈ s.gone, ∃ e ∈ s.closures, e.conn = c
  no_panic : s.panicked = false
  isolated : ∀ d ∈ s.inbox ++ s.outbox ++ s.dropped, ∃ e ∈ s.closures, e.conn = d.conn ∧ e.sid = d.sid

section
variable {s : St} {sid : Sid} {c : Conn} {p : Peer} {e x : Entry}

theorem Glob.conn_uniq (h : Glob s) (he : e ∈ s.live) (hx : x ∈ s.live) (hc : e.conn = x.conn) : e = x :=
  h.clos_uniq e (h.live_clos e he) x (h.live_clos x hx) hc

theorem Glob.live_not_closed (h : Glob s) (he : e ∈ s.live) : e.conn ∉ s.closed :=
  fun hc => h.live_open e he (h.closed_gone _ hc)

theorem and_beq_iff {a b c d : Nat} : (a == b && c == d) = true ↔ a = b ∧ c = d := by
  rw [Bool.and_eq_true, beq_iff_eq, beq_iff_eq]

/-- for the connected, the tests "same session and connection id" and "same session and peer id" that the tables are
searched with both say "same connection id" -/
theorem Glob.conn_key_beq (h : Glob s) (hx : x ∈ s.live) (he : e ∈ s.live) :
    (x.sid == e.sid && x.conn == e.conn) = (x.conn == e.conn) :=
  Bool.and_eq_right_iff_imp.mpr fun hc => beq_iff_eq.mpr (congrArg Entry.sid (h.conn_uniq hx he (beq_iff_eq.mp hc)))

theorem Glob.peer_key_beq (h : Glob s) (hx : x ∈ s.live) (he : e ∈ s.live) :
    (x.sid == e.sid && x.peer == e.peer) = (x.conn == e.conn) := by
  rw [Bool.eq_iff_iff, and_beq_iff, beq_iff_eq]
  refine ⟨fun hk => congrArg Entry.conn (h.peer_uniq x hx e he hk.1 hk.2), fun hc => ?_⟩
  cases h.conn_uniq hx he hc
  exact ⟨rfl, rfl⟩

theorem mem_connsOf (h : Glob s) : e ∈ connsOf s sid ↔ e ∈ s.live ∧ e.sid = sid := by
  rw [← h.conns_live, connsOf, List.mem_filter, beq_iff_eq]

theorem idxFind_some (h : Glob s) (hf : idxFind s sid p = some e) : e ∈ s.live ∧ e.sid = sid ∧ e.peer = p := by
  have hk := List.find?_some hf
  exact ⟨(h.idx_live e).mp (List.mem_of_find?_eq_some hf), and_beq_iff.mp hk⟩

theorem idxFind_none (h : Glob s) (hf : idxFind s sid p = none) : ∀ e ∈ s.live, ¬ (e.sid = sid ∧ e.peer = p) :=
  fun e he hk => List.find?_eq_none.mp hf e ((h.idx_live e).mpr he) (and_beq_iff.mpr hk)

theorem idxFind_live (h : Glob s) (he : e ∈ s.live) : idxFind s e.sid e.peer = some e := by
  cases hf : idxFind s e.sid e.peer with
  | none => exact absurd ⟨rfl, rfl⟩ (idxFind_none h hf e he)
  | some x =>
    obtain ⟨hx, hs, hp⟩ := idxFind_some h hf
    rw [h.peer_uniq x hx e he hs hp]

theorem any_conn_live (h : Glob s) (he : e ∈ s.live) :
    s.conns.any (fun x => x.sid == e.sid && x.conn == e.conn) = true :=
  List.any_eq_true.mpr ⟨e, (h.conns_live e).mpr he, by simp only [beq_self_eq_true, Bool.and_self]⟩

/-! ### the abstract rules on the ghost state -/

theorem mem_filter_not {α : Type} {q : α → Bool} {l : List α} {a : α} :
    a ∈ l.filter (fun x => !q x) ↔ a ∈ l ∧ q a = false := by
  rw [List.mem_filter, Bool.not_eq_true']

theorem mem_gone_unreg {gone : List Conn} {live : List Entry} {q : Entry → Bool} :
    c ∈ gone ++ (live.filter q).map (·.conn) ↔ c ∈ gone ∨ ∃ e ∈ live, q e = true ∧ e.conn = c := by
  simp only [List.mem_append, List.mem_map, List.mem_filter, and_assoc]

/-- "unregister the live entries that satisfy `q`": `Add` (the entry it replaces), the start of `remove` and `CloseSession`
all do this to the ghost state, and take the same entries out of the two tables -/
theorem Glob.unregister (h : Glob s) (q : Entry → Bool) {cs ix : List Entry}
    (hcs : ∀ e, e ∈ cs ↔ e ∈ s.conns ∧ q e = false) (hix : ∀ e, e ∈ ix ↔ e ∈ s.idx ∧ q e = false) :
    Glob { s with conns := cs, idx := ix, live := s.live.filter (fun e => !q e),
                  gone := s.gone ++ (s.live.filter q).map (·.conn) } where
  conns_live e := by rw [hcs, h.conns_live]; exact mem_filter_not.symm
  idx_live e := by rw [hix, h.idx_live]; exact mem_filter_not.symm
  peer_uniq e1 h1 e2 h2 := h.peer_uniq e1 (List.mem_filter.mp h1).1 e2 (List.mem_filter.mp h2).1
  live_clos e he := h.live_clos e (List.mem_filter.mp he).1
  clos_uniq := h.clos_uniq
  live_reg e he := h.live_reg e (List.mem_filter.mp he).1
  live_open e he hg := by
    obtain ⟨he, hq⟩ := mem_filter_not.mp he
    rcases mem_gone_unreg.mp hg with hg | ⟨r, hr, hqr, hrc⟩
    · exact h.live_open e he hg
    · rw [h.conn_uniq hr he hrc, hq] at hqr; cases hqr
  closed_gone c hc := List.mem_append_left _ (h.closed_gone c hc)
  gone_clos c hc := by
    rcases mem_gone_unreg.mp hc with hc | ⟨r, hr, _, hrc⟩
    · exact h.gone_clos c hc
    · exact ⟨r, h.live_clos r hr, hrc⟩
  no_panic := h.no_panic
  isolated := h.isolated

theorem unreg_none {q : Entry → Bool} (hq : ∀ x ∈ s.live, q x = false) :
    { s with live := s.live.filter (fun x => !q x), gone := s.gone ++ (s.live.filter q).map (·.conn) } = s := by
  rw [List.filter_eq_self.mpr fun x hx => by rw [hq x hx]; rfl,
    List.filter_eq_nil_iff.mpr fun x hx => by rw [hq x hx]; exact Bool.false_ne_true, List.map_nil, List.append_nil]

theorem Glob.set_closed (h : Glob s) {cl k : List Conn} (hc : ∀ c ∈ cl, c ∈ s.gone) :
    Glob { s with closed := cl, kicked := k } :=
  { h with closed_gone := hc }

/-- "register `e`", the last part of `Add` -/
theorem Glob.register (h : Glob s) (e : Entry) (hfresh : ∀ x ∈ s.closures, x.conn ≠ e.conn)
    (hfree : ∀ x ∈ s.live, ¬ (x.sid = e.sid ∧ x.peer = e.peer)) {r : List Sid} {cs ix : List Entry}
    (hr : ∀ sid, sid ∈ s.reg ∨ sid = e.sid → sid ∈ r)
    (hcs : ∀ x, x ∈ cs ↔ x ∈ s.conns ∨ x = e) (hix : ∀ x, x ∈ ix ↔ x ∈ s.idx ∨ x = e) :
    Glob { s with reg := r, conns := cs, idx := ix, closures := s.closures ++ [e], live := s.live ++ [e] } := by
  refine {
      conns_live := fun x => ?_, idx_live := fun x => ?_, peer_uniq := ?_, live_clos := ?_, clos_uniq := ?_
      live_reg := ?_, live_open := ?_, closed_gone := h.closed_gone, gone_clos := fun c hc => ?_
      no_panic := h.no_panic, isolated := fun d hd => ?_ } <;>
    simp only [List.mem_append, List.mem_singleton]
  · -- conns_live
    rw [hcs, h.conns_live]
  · -- idx_live
    rw [hix, h.idx_live]
  · -- peer_uniq
    rintro e1 (h1 | rfl) e2 (h2 | rfl) hs hp
    · exact h.peer_uniq e1 h1 e2 h2 hs hp
    · exact absurd ⟨hs, hp⟩ (hfree e1 h1)
    · exact absurd ⟨hs.symm, hp.symm⟩ (hfree e2 h2)
    · rfl
  · -- live_clos
    exact fun x hx => hx.imp_left (h.live_clos x)
  · -- clos_uniq
    rintro e1 (h1 | rfl) e2 (h2 | rfl) hc
    · exact h.clos_uniq e1 h1 e2 h2 hc
    · exact absurd hc (hfresh e1 h1)
    · exact absurd hc.symm (hfresh e2 h2)
    · rfl
  · -- live_reg
    rintro x (hx | rfl)
    · exact hr _ (Or.inl (h.live_reg x hx))
    · exact hr _ (Or.inr rfl)
  · -- live_open: a connection that is gone has a closure, so it is not the fresh one
    rintro x (hx | rfl) hg
    · exact h.live_open x hx hg
    · obtain ⟨y, hy, hyc⟩ := h.gone_clos _ hg
      exact hfresh y hy hyc
  · -- gone_clos
    obtain ⟨y, hy, hyc⟩ := h.gone_clos c hc
    exact ⟨y, Or.inl hy, hyc⟩
  · -- isolated
    obtain ⟨y, hy, hyd⟩ := h.isolated d hd
    exact ⟨y, Or.inl hy, hyd⟩

end

/-! ### threads -/

/-- what the program counter of a thread promises about the shared state -/
def pcOK (s : St) : Pc → Prop
  | .bcastHold sid _ targets => targets ≠ [] ∧ ∀ c ∈ targets, ∃ e ∈ s.live, e.conn = c ∧ e.sid = sid
  | .removeClose _ c => c ∈ s.gone
  | .closeLoop targets => targets ≠ [] ∧ ∀ c ∈ targets, c ∈ s.gone
  | _ => True

def pcHold : Pc → Bool
  | .bcastHold .. => true
  | _ => false

def isHold (th : Thread) : Bool := pcHold th.pc

structure Inv (s : St) : Prop where
  glob : Glob s
  pcs : ∀ th ∈ s.threads, pcOK s th.pc
  /-- the read lock is held by exactly the threads inside a broadcast loop -/
  lock : s.rlock = (s.threads.filter isHold).length

theorem Inv.rlock_pos {s : St} {th : Thread} (hi : Inv s) (hth : th ∈ s.threads) (hh : isHold th = true) : 0 < s.rlock :=
  hi.lock ▸ List.length_pos_of_mem (List.mem_filter.mpr ⟨hth, hh⟩)

theorem erase_targets_ok {targets : List Conn} {pick : Conn} {P : Conn → Prop} (h : ∀ c ∈ targets, P c) :
    ∀ c ∈ targets.erase pick, P c := fun c hc => h c (List.mem_of_mem_erase hc)

/-- the session whose emptiness this thread will still look at -/
def pendGC (sid : Sid) : Pc → Prop
  | .removeClose sid' _ => sid' = sid
  | .removeGC sid' => sid' = sid
  | _ => False

/-- the connections whose channel this thread will still close -/
def pendClose (c : Conn) : Pc → Prop
  | .removeClose _ c' => c' = c
  | .closeLoop targets => c ∈ targets
  | _ => False

theorem pendGC_idle {sid : Sid} : ¬ pendGC sid .idle := nofun

theorem pendClose_idle {c : Conn} : ¬ pendClose c .idle := nofun

structure Leak (s : St) : Prop where
  /-- a registered session has a connected peer, or a remove that will look at it again is under way -/
  gc : ∀ sid ∈ s.reg, (∃ e ∈ s.live, e.sid = sid) ∨ ∃ th ∈ s.threads, pendGC sid th.pc
  /-- the channel of an unregistered connection is closed, or the thread that will close it is under way -/
  close : ∀ c ∈ s.gone, c ∈ s.closed ∨ ∃ th ∈ s.threads, pendClose c th.pc

section
variable {s s1 : St} {sid : Sid} {c pick : Conn} {p : Peer} {m : Msg} {e : Entry} {targets : List Conn} {pc0 pc : Pc}
  {w : Bool}

theorem pcOK_mono (hgone : ∀ c ∈ s.gone, c ∈ s1.gone) (hlive : pcHold pc = true → s1.live = s.live)
    (h : pcOK s pc) : pcOK s1 pc := by
  cases pc with
  | bcastHold sid m targets => rw [pcOK, hlive rfl]; exact h
  | removeClose sid c => exact hgone c h
  | closeLoop targets => exact ⟨h.1, fun c hc => hgone c (h.2 c hc)⟩
  | idle => trivial
  | removeGC sid => trivial

/-- The step of a thread at `pc0` from `s` to `s1` that leaves the thread at `pc` (`w`: the step needs the write lock): the
conditions, local to this thread, under which `Inv` and `Leak` survive. `gc`, `close`: a session or connection that was
settled before the step without looking at the other threads is so afterwards; what another thread has pending stays
that thread's business (`carried_set` splits on whether the premise holds). -/
structure Effect (s : St) (pc0 : Pc) (w : Bool) (s1 : St) (pc : Pc) : Prop where
  glob : Glob s1
  threads : s1.threads = s.threads
  pc_ok : pcOK s1 pc
  gone : ∀ c ∈ s.gone, c ∈ s1.gone
  live : w = false → s1.live = s.live
  rlock : s1.rlock + (if pcHold pc0 then 1 else 0) = s.rlock + (if pcHold pc then 1 else 0)
  gc : ∀ sid, (sid ∈ s.reg → (∃ e ∈ s.live, e.sid = sid) ∨ pendGC sid pc0) →
    sid ∈ s1.reg → (∃ e ∈ s1.live, e.sid = sid) ∨ pendGC sid pc
  close : ∀ c, (c ∈ s.gone → c ∈ s.closed ∨ pendClose c pc0) → c ∈ s1.gone → c ∈ s1.closed ∨ pendClose c pc

/-- how a step that registers and unregisters nobody relates the fields `Effect` and `Leak` speak of -/
structure Frame (s s1 : St) : Prop where
  reg : ∀ sid ∈ s1.reg, sid ∈ s.reg
  closed : ∀ c ∈ s.closed, c ∈ s1.closed
  threads : s1.threads = s.threads
  live : s1.live = s.live
  gone : s1.gone = s.gone

/-- the step writes none of the five fields: each equation is a projection of a `{ s with .. }` that sets others -/
theorem Frame.of_eq (hr : s1.reg = s.reg := by rfl) (hc : s1.closed = s.closed := by rfl)
    (ht : s1.threads = s.threads := by rfl) (hl : s1.live = s.live := by rfl) (hg : s1.gone = s.gone := by rfl) :
    Frame s s1 where
  reg _ h := hr ▸ h
  closed _ h := hc ▸ h
  threads := ht
  live := hl
  gone := hg

/-- a step that registers and unregisters nobody. `hgc`, `hcl` ask only about what `pc0` itself has pending; where that is
nothing, `nofun` proves them. -/
theorem Effect.quiet (hg : Glob s1) (hf : Frame s s1) (hpc : pcOK s pc)
    (hrl : s1.rlock + (if pcHold pc0 then 1 else 0) = s.rlock + (if pcHold pc then 1 else 0))
    (hgc : ∀ sid, pendGC sid pc0 → sid ∈ s1.reg → (∃ e ∈ s.live, e.sid = sid) ∨ pendGC sid pc)
    (hcl : ∀ c, pendClose c pc0 → c ∈ s1.closed ∨ pendClose c pc) : Effect s pc0 w s1 pc where
  glob := hg
  threads := hf.threads
  pc_ok := pcOK_mono (fun _ h => hf.gone ▸ h) (fun _ => hf.live) hpc
  gone _ h := hf.gone ▸ h
  live _ := hf.live
  rlock := hrl
  gc sid h hr := by
    rw [hf.live]
    rcases h (hf.reg sid hr) with hlive | hpend
    · exact Or.inl hlive
    · exact hgc sid hpend hr
  close c h hc := by
    rw [hf.gone] at hc
    rcases h hc with hclosed | hpend
    · exact Or.inl (hf.closed c hclosed)
    · exact hcl c hpend

/-- a step from idle that changes at most the lock count and the results; by eta that includes the steps that change
nothing. `{ h with }` retypes `h`: no field of `Glob` mentions `rlock` or `results`. -/
theorem Effect.reader {rl : Nat} {rs : List Res} (h : Glob s) (hpc : pcOK s pc)
    (hrl : rl = s.rlock + (if pcHold pc then 1 else 0)) : Effect s .idle w { s with rlock := rl, results := rs } pc :=
  .quiet { h with } .of_eq (hpc := hpc) (hrl := hrl) (hgc := nofun) (hcl := nofun)

/-! ### the operations under the read lock -/

theorem trySend_fields (s : St) (c : Conn) (sid : Sid) (m : Msg) :
    ∃ pn ib dr, trySend s c sid m = { s with panicked := pn, inbox := ib, dropped := dr } := by
  unfold trySend
  split
  · exact ⟨_, _, _, rfl⟩
  · split <;> exact ⟨_, _, _, rfl⟩

theorem trySend_glob (h : Glob s) (m : Msg) (hl : ∃ e ∈ s.live, e.conn = c ∧ e.sid = sid) :
    Glob (trySend s c sid m) := by
  obtain ⟨e, he, rfl, rfl⟩ := hl
  have hnew : ∃ x ∈ s.closures, x.conn = e.conn ∧ x.sid = e.sid := ⟨e, h.live_clos e he, rfl, rfl⟩
  have hiso := h.isolated
  simp only [List.forall_mem_append] at hiso
  obtain ⟨⟨hin, hout⟩, hdr⟩ := hiso
  unfold trySend
  rw [if_neg (h.live_not_closed he)]
  split <;> refine { h with isolated := ?_ } <;> simp only [List.forall_mem_append, List.forall_mem_singleton]
  · exact ⟨⟨⟨hin, hnew⟩, hout⟩, hdr⟩
  · exact ⟨⟨hin, hout⟩, hdr, hnew⟩

theorem doSendTo_live (h : Glob s) (he : e ∈ s.live) (t : Nat) (m : Msg) :
    doSendTo s t e.sid e.peer m = { trySend s e.conn e.sid m with
      results := (trySend s e.conn e.sid m).results ++ [.sent t e.sid e.peer true] } := by
  simp only [doSendTo, idxFind_live h he, any_conn_live h he, if_true]

theorem doSendTo_not_live (h : Glob s) (hn : ∀ e ∈ s.live, ¬ (e.sid = sid ∧ e.peer = p)) (t : Nat) (m : Msg) :
    doSendTo s t sid p m = { s with results := s.results ++ [.sent t sid p false] } := by
  cases hf : idxFind s sid p with
  | none => simp only [doSendTo, hf]
  | some e =>
    obtain ⟨he, hk⟩ := idxFind_some h hf
    exact absurd hk (hn e he)

theorem doSendTo_effect (h : Glob s) (t : Nat) (sid : Sid) (p : Peer) (m : Msg) :
    Effect s .idle w (doSendTo s t sid p m) .idle := by
  by_cases hl : ∃ e ∈ s.live, e.sid = sid ∧ e.peer = p
  · obtain ⟨e, he, rfl, rfl⟩ := hl
    have hg := trySend_glob h m ⟨e, he, rfl, rfl⟩
    obtain ⟨pn, ib, dr, hts⟩ := trySend_fields s e.conn e.sid m
    rw [doSendTo_live h he]
    rw [hts] at hg ⊢
    exact .quiet { hg with } .of_eq (hpc := trivial) (hrl := rfl) (hgc := nofun) (hcl := nofun)
  · rw [doSendTo_not_live h (fun e he hk => hl ⟨e, he, hk⟩)]
    exact .reader h trivial rfl

theorem connsOf_live (h : Glob s) (hc : c ∈ (connsOf s sid).map (·.conn)) : ∃ e ∈ s.live, e.conn = c ∧ e.sid = sid := by
  obtain ⟨e, he, rfl⟩ := List.mem_map.mp hc
  exact ⟨e, ((mem_connsOf h).mp he).1, rfl, ((mem_connsOf h).mp he).2⟩

theorem bcastTargets_live (h : Glob s) (hc : c ∈ bcastTargets s sid) : ∃ e ∈ s.live, e.conn = c ∧ e.sid = sid := by
  unfold bcastTargets at hc
  split at hc
  · exact connsOf_live h hc
  · cases hc

theorem bcastExceptTargets_sub (hc : c ∈ bcastExceptTargets s sid p) : c ∈ bcastTargets s sid := by
  unfold bcastExceptTargets at hc
  unfold bcastTargets
  split at hc
  · obtain ⟨e, he, rfl⟩ := List.mem_map.mp hc
    rw [if_pos ‹sid ∈ s.reg›]
    exact List.mem_map_of_mem (List.mem_filter.mp he).1
  · cases hc

theorem doBcastStart_effect (h : Glob s) (m : Msg) (ht : ∀ c ∈ targets, ∃ e ∈ s.live, e.conn = c ∧ e.sid = sid) :
    Effect s .idle w (doBcastStart s sid m targets).1 (doBcastStart s sid m targets).2 := by
  unfold doBcastStart
  split
  · exact .reader h trivial rfl
  · rename_i hne
    exact .reader h ⟨mt List.isEmpty_iff.mpr hne, ht⟩ rfl

theorem doHold_effect (h : Glob s) (hpos : 0 < s.rlock) (hpc : pcOK s (.bcastHold sid m targets)) (hp : pick ∈ targets) :
    Effect s (.bcastHold sid m targets) w (doHold s sid m targets pick).1 (doHold s sid m targets pick).2 := by
  have hg := trySend_glob h m (hpc.2 pick hp)
  obtain ⟨pn, ib, dr, hts⟩ := trySend_fields s pick sid m
  unfold doHold
  simp only
  rw [hts] at hg ⊢
  split
  · -- last target, the read lock is released: `hrl` is `s.rlock - 1 + 1 = s.rlock + 0`
    exact .quiet { hg with } .of_eq (hpc := trivial) (hrl := Nat.sub_add_cancel hpos) (hgc := nofun) (hcl := nofun)
  · rename_i hne
    exact .quiet hg .of_eq (hpc := ⟨mt List.isEmpty_iff.mpr hne, erase_targets_ok hpc.2⟩) (hrl := rfl) (hgc := nofun)
      (hcl := nofun)

/-! ### closing the channels of the unregistered, and the GC of remove -/

/-- closing the channel of one unregistered connection `c`: the step at `removeClose`, and each round of `closeLoop` -/
theorem Effect.closing {k : List Conn} (h : Glob s) (hc : c ∈ s.gone) (hpc : pcOK s pc) (h0 : pcHold pc0 = false)
    (h1 : pcHold pc = false) (hgc : ∀ sid, pendGC sid pc0 → pendGC sid pc)
    (hcl : ∀ x, pendClose x pc0 → x = c ∨ pendClose x pc) :
    Effect s pc0 w { s with closed := c :: s.closed, kicked := k } pc := by
  have hg : Glob { s with closed := c :: s.closed, kicked := k } := h.set_closed fun x hx => by
    rcases List.mem_cons.mp hx with rfl | hx
    · exact hc
    · exact h.closed_gone x hx
  have hf : Frame s { s with closed := c :: s.closed, kicked := k } :=
    { reg := fun _ hx => hx, closed := fun _ hx => List.mem_cons_of_mem c hx, threads := rfl, live := rfl, gone := rfl }
  refine .quiet hg hf (hpc := hpc) (hrl := by rw [h0, h1]) (hgc := fun sid hp _ => Or.inr (hgc sid hp))
    (hcl := fun x hp => ?_)
  rcases hcl x hp with rfl | hp
  · exact Or.inl (List.mem_cons_self ..)
  · exact Or.inr hp

theorem doCloseLoop_effect (h : Glob s) (hpc : pcOK s (.closeLoop targets)) (hp : pick ∈ targets) :
    Effect s (.closeLoop targets) w (doCloseLoop s targets pick).1 (doCloseLoop s targets pick).2 := by
  have hgone : pick ∈ s.gone := hpc.2 pick hp
  have hcl : ∀ x, x ∈ targets → x = pick ∨ x ∈ targets.erase pick := fun x hx =>
    (Decidable.em (x = pick)).imp_right fun hne => (List.mem_erase_of_ne hne).mpr hx
  unfold doCloseLoop
  simp only
  split
  · rename_i hnil
    -- `pick` was the last one: `hcl` becomes `x = pick ∨ x ∈ []`
    rw [List.isEmpty_iff.mp hnil] at hcl
    exact .closing h hgone (hpc := trivial) (h0 := rfl) (h1 := rfl) (hgc := nofun)
      (hcl := fun x hx => (hcl x hx).imp_right nofun)
  · rename_i hne
    exact .closing h hgone (hpc := ⟨mt List.isEmpty_iff.mpr hne, erase_targets_ok hpc.2⟩) (h0 := rfl) (h1 := rfl)
      (hgc := nofun) (hcl := hcl)

theorem doRemoveGC_effect (h : Glob s) (sid : Sid) : Effect s (.removeGC sid) true (doRemoveGC s sid) .idle := by
  unfold doRemoveGC
  split <;> rename_i hcond <;> simp only [Bool.and_eq_true, decide_eq_true_eq, List.isEmpty_iff] at hcond
  · -- `hcond : sid ∈ s.reg ∧ connsOf s sid = []`
    have hempty : ∀ e ∈ s.live, (e.sid != sid) = true := fun e he => bne_iff_ne.mpr fun hs =>
      List.ne_nil_of_mem ((mem_connsOf h).mpr ⟨he, hs⟩) hcond.2
    have hg : Glob { s with reg := s.reg.filter (· != sid), idx := s.idx.filter (fun e => e.sid != sid) } :=
      { h with
        idx_live := fun e => by rw [List.mem_filter, h.idx_live]; exact and_iff_left_of_imp (hempty e)
        live_reg := fun e he => List.mem_filter.mpr ⟨h.live_reg e he, hempty e he⟩ }
    refine .quiet hg
      { reg := fun _ hx => (List.mem_filter.mp hx).1, closed := fun _ hx => hx, threads := rfl, live := rfl, gone := rfl }
      (hpc := trivial) (hrl := rfl) (hgc := fun sid' hp hr => ?_) (hcl := nofun)
    -- `hp` unfolds to `sid = sid'`, and `sid` has just been dropped from `reg`
    cases hp
    exact absurd rfl (bne_iff_ne.mp (List.mem_filter.mp hr).2)
  · -- the session, if still registered, is not empty, so it has a live entry
    refine .quiet h .of_eq (hpc := trivial) (hrl := rfl) (hgc := fun sid' hp hr => Or.inl ?_) (hcl := nofun)
    cases hp
    obtain ⟨e, he⟩ := List.exists_mem_of_ne_nil (connsOf s sid) fun hnil => hcond ⟨hr, hnil⟩
    exact ⟨e, (mem_connsOf h).mp he⟩

/-! ### the operations that unregister: Add, the start of remove, CloseSession -/

theorem mem_doAdd_reg (c : Conn) (p : Peer) {x : Sid} : x ∈ (doAdd s sid c p).reg ↔ x ∈ s.reg ∨ x = sid := by
  show x ∈ (if sid ∈ s.reg then s.reg else s.reg ++ [sid]) ↔ _
  split
  · rename_i hreg
    exact (or_iff_left_of_imp fun hx : x = sid => hx ▸ hreg).symm
  · exact List.mem_append.trans (or_congr_right List.mem_singleton)

section add
variable (h : Glob s) (hfresh : ∀ e ∈ s.closures, e.conn ≠ c)
include h hfresh

theorem mem_replConns (x : Entry) : x ∈ replConns s sid c p ↔ x ∈ s.conns ∧ (x.sid == sid && x.peer == p) = false := by
  unfold replConns
  cases hf : idxFind s sid p with
  | none =>
    exact (and_iff_left_of_imp fun hx => Bool.eq_false_iff.mpr fun hk =>
      idxFind_none h hf x ((h.conns_live x).mp hx) (and_beq_iff.mp hk)).symm
  | some old =>
    obtain ⟨hol, rfl, rfl⟩ := idxFind_some h hf
    simp only [bne_iff_ne.mpr (hfresh old (h.live_clos old hol)), if_true]
    refine mem_filter_not.trans (and_congr_right fun hx => ?_)
    have hxl := (h.conns_live x).mp hx
    rw [h.conn_key_beq hxl hol, h.peer_key_beq hxl hol]

theorem mem_doAdd_conns (x : Entry) :
    x ∈ (doAdd s sid c p).conns ↔ x ∈ s.conns.filter (fun e => !(e.sid == sid && e.peer == p)) ∨ x = ⟨sid, c, p⟩ := by
  refine List.mem_append.trans (or_congr (mem_filter_not.trans ?_) List.mem_singleton)
  rw [mem_replConns h hfresh, mem_filter_not]
  -- the second filter of `doAdd` (by connection id `c`) removes nothing, `c` being fresh
  refine and_iff_left_of_imp fun hx => ?_
  rw [beq_false_of_ne (hfresh x (h.live_clos x ((h.conns_live x).mp hx.1))), Bool.and_false]

theorem mem_replClosed (x : Conn) :
    x ∈ replClosed s sid c p ↔ x ∈ s.closed ∨ ∃ e ∈ s.live, (e.sid == sid && e.peer == p) = true ∧ e.conn = x := by
  unfold replClosed
  cases hf : idxFind s sid p with
  | none =>
    refine (or_iff_left ?_).symm
    rintro ⟨e, he, hq, -⟩
    exact idxFind_none h hf e he (and_beq_iff.mp hq)
  | some old =>
    obtain ⟨hol, rfl, rfl⟩ := idxFind_some h hf
    simp only [bne_iff_ne.mpr (hfresh old (h.live_clos old hol)), any_conn_live h hol, Bool.and_self, if_true, List.mem_cons]
    rw [or_comm]
    refine or_congr_right ⟨fun hx => ⟨old, hol, and_beq_iff.mpr ⟨rfl, rfl⟩, hx.symm⟩, ?_⟩
    rintro ⟨e, he, hq, rfl⟩
    rw [h.peer_uniq e he old hol (and_beq_iff.mp hq).1 (and_beq_iff.mp hq).2]

/-- `Add` = unregister whoever is connected under the peer id, close that channel, register the new connection -/
theorem doAdd_glob : Glob (doAdd s sid c p) := by
  have hu := h.unregister (fun e => e.sid == sid && e.peer == p) (fun _ => mem_filter_not) (fun _ => mem_filter_not)
  have hc := hu.set_closed (cl := replClosed s sid c p) (k := s.kicked) fun x hx =>
    mem_gone_unreg.mpr (((mem_replClosed h hfresh x).mp hx).imp_left (h.closed_gone x))
  have hfree : ∀ x ∈ s.live.filter (fun e => !(e.sid == sid && e.peer == p)), ¬ (x.sid = sid ∧ x.peer = p) :=
    fun x hx hk => Bool.eq_false_iff.mp (mem_filter_not.mp hx).2 (and_beq_iff.mpr hk)
  -- the nested `{ _ with .. }` of the three rules is `doAdd s sid c p` up to eta, which `exact` checks
  exact hc.register ⟨sid, c, p⟩ (hfresh := hfresh) (hfree := hfree)
    (hr := fun _ => (mem_doAdd_reg c p).mpr)
    (hcs := mem_doAdd_conns h hfresh)
    (hix := fun _ => List.mem_append.trans (or_congr_right List.mem_singleton))

theorem doAdd_effect : Effect s .idle true (doAdd s sid c p) .idle where
  glob := doAdd_glob h hfresh
  threads := rfl
  pc_ok := trivial
  gone _ hx := List.mem_append_left _ hx
  live := nofun
  rlock := rfl
  gc sid' hloc hr := by
    have hnew : (⟨sid, c, p⟩ : Entry) ∈ (doAdd s sid c p).live := List.mem_append_right _ (List.mem_singleton_self _)
    left
    rcases (mem_doAdd_reg c p).mp hr with hr | rfl
    · -- its live entry `e` stays, or `e` was the one replaced and the new entry is in the same session
      obtain ⟨e, he, rfl⟩ := (hloc hr).resolve_right pendGC_idle
      by_cases hq : (e.sid == sid && e.peer == p) = true
      · exact ⟨_, hnew, (and_beq_iff.mp hq).1.symm⟩
      · exact ⟨e, List.mem_append_left _ (mem_filter_not.mpr ⟨he, Bool.eq_false_iff.mpr hq⟩), rfl⟩
    · exact ⟨_, hnew, rfl⟩
  close x hloc hx := by
    refine Or.inl ((mem_replClosed h hfresh x).mpr ?_)
    rcases mem_gone_unreg.mp hx with hx | hrepl
    · exact Or.inl ((hloc hx).resolve_right pendClose_idle)
    · exact Or.inr hrepl

end add

/-- the remove closure of a connection that was unregistered before (replaced, its session closed, removed already) -/
theorem doRemoveStart_stale (h : Glob s) (he : e ∈ s.closures) (hn : e ∉ s.live) : doRemoveStart s e = (s, .idle) := by
  have hne : ∀ x ∈ s.live, (x.conn == e.conn) = false := fun x hx => beq_false_of_ne fun hc =>
    hn (h.clos_uniq x (h.live_clos x hx) e he hc ▸ hx)
  have hcond : ¬ (decide (e.sid ∈ s.reg) && s.conns.any fun x => x.sid == e.sid && x.conn == e.conn) = true := by
    rw [Bool.and_eq_true, List.any_eq_true]
    rintro ⟨-, x, hx, hxc⟩
    exact Bool.false_ne_true ((hne x ((h.conns_live x).mp hx)).symm.trans (Bool.and_eq_true_iff.mp hxc).2)
  rw [doRemoveStart, if_neg hcond]
  -- the model's filter `x.conn != e.conn` unfolds to `!(x.conn == e.conn)`, the form `unreg_none` has
  exact congrArg (·, Pc.idle) (unreg_none hne)

theorem doRemoveStart_live (h : Glob s) (hl : e ∈ s.live) :
    doRemoveStart s e = ({ s with
      conns := s.conns.filter (fun x => !(x.sid == e.sid && x.conn == e.conn))
      idx := s.idx.filter (fun x => !(x.sid == e.sid && x.peer == e.peer))
      live := s.live.filter (fun x => x.conn != e.conn)
      gone := s.gone ++ (s.live.filter (fun x => x.conn == e.conn)).map (·.conn) }, .removeClose e.sid e.conn) := by
  simp only [doRemoveStart, h.live_reg e hl, any_conn_live h hl, decide_true, Bool.and_self, if_true, idxFind_live h hl,
    beq_self_eq_true]

theorem doRemoveStart_effect (h : Glob s) (he : e ∈ s.closures) :
    Effect s .idle true (doRemoveStart s e).1 (doRemoveStart s e).2 := by
  by_cases hl : e ∈ s.live
  · have hkey : ∀ x ∈ s.live, (x.conn == e.conn) = true → x = e := fun x hx hc => h.conn_uniq hx hl (beq_iff_eq.mp hc)
    rw [doRemoveStart_live h hl]
    exact {
      glob := h.unregister (fun x => x.conn == e.conn)
        (hcs := fun x => mem_filter_not.trans (and_congr_right fun hx => by rw [h.conn_key_beq ((h.conns_live x).mp hx) hl]))
        (hix := fun x => mem_filter_not.trans (and_congr_right fun hx => by rw [h.peer_key_beq ((h.idx_live x).mp hx) hl]))
      threads := rfl
      pc_ok := show e.conn ∈ _ from mem_gone_unreg.mpr (Or.inr ⟨e, hl, beq_self_eq_true _, rfl⟩)
      gone := fun _ hx => List.mem_append_left _ hx
      live := nofun
      rlock := rfl
      gc := fun sid hloc hr => by
        obtain ⟨x, hx, rfl⟩ := (hloc hr).resolve_right pendGC_idle
        by_cases hc : (x.conn == e.conn) = true
        · right
          show e.sid = x.sid
          rw [hkey x hx hc]
        · exact Or.inl ⟨x, mem_filter_not.mpr ⟨hx, Bool.eq_false_iff.mpr hc⟩, rfl⟩
      close := fun c hloc hc => by
        rcases mem_gone_unreg.mp hc with hc | ⟨x, hx, hq, rfl⟩
        · exact Or.inl ((hloc hc).resolve_right pendClose_idle)
        · right
          show e.conn = x.conn
          rw [hkey x hx hq] }
  · rw [doRemoveStart_stale h he hl]
    exact .reader h trivial rfl

theorem doCloseSession_unknown (h : Glob s) (hn : sid ∉ s.reg) : doCloseSession s sid = (s, .idle) := by
  rw [doCloseSession, if_neg hn]
  exact congrArg (·, Pc.idle) (unreg_none fun x hx => beq_false_of_ne fun hs => hn (hs ▸ h.live_reg x hx))

theorem doCloseSession_effect (h : Glob s) (sid : Sid) :
    Effect s .idle true (doCloseSession s sid).1 (doCloseSession s sid).2 := by
  by_cases hr : sid ∈ s.reg
  · simp only [doCloseSession, hr, if_true]
    exact {
      -- `reg` loses `sid` as well; `live_reg` is the only clause of `Glob` that mentions `reg`
      glob := { h.unregister (fun x => x.sid == sid) (fun _ => mem_filter_not) (fun _ => mem_filter_not) with
        live_reg := fun x hx => List.mem_filter.mpr ⟨h.live_reg x (List.mem_filter.mp hx).1, (List.mem_filter.mp hx).2⟩ }
      threads := rfl
      pc_ok := by
        split
        · trivial
        · rename_i hne
          refine ⟨mt List.isEmpty_iff.mpr hne, fun c hc => ?_⟩
          obtain ⟨x, hx, rfl, hs⟩ := connsOf_live h hc
          exact mem_gone_unreg.mpr (Or.inr ⟨x, hx, beq_iff_eq.mpr hs, rfl⟩)
      gone := fun _ hx => List.mem_append_left _ hx
      live := nofun
      rlock := by cases ((connsOf s sid).map (·.conn)).isEmpty <;> rfl
      gc := fun sid' hloc hr' => by
        obtain ⟨hr', hne⟩ := List.mem_filter.mp hr'
        obtain ⟨x, hx, rfl⟩ := (hloc hr').resolve_right pendGC_idle
        exact Or.inl ⟨x, List.mem_filter.mpr ⟨hx, hne⟩, rfl⟩
      close := fun c hloc hc => by
        rcases mem_gone_unreg.mp hc with hc | ⟨x, hx, hq, rfl⟩
        · exact Or.inl ((hloc hc).resolve_right pendClose_idle)
        · have hm : x.conn ∈ (connsOf s sid).map (·.conn) :=
            List.mem_map_of_mem ((mem_connsOf h).mpr ⟨hx, beq_iff_eq.mp hq⟩)
          rw [if_neg (mt List.isEmpty_iff.mp (List.ne_nil_of_mem hm))]
          exact Or.inr hm }
  · rw [doCloseSession_unknown h hr]
    exact .reader h trivial rfl

end

/-! ### steps -/

section
variable {s s' s1 : St} {t : Nat} {th : Thread} {pick c : Conn} {pc : Pc} {prog : List Op}

theorem stepCore_effect (hi : Inv s) (hth : th ∈ s.threads) (hc : stepCore s t th pick = some (s1, pc, prog)) :
    Effect s th.pc (needsWrite th) s1 pc := by
  have hg := hi.glob
  have hpc := hi.pcs th hth
  obtain ⟨tpc, tprog⟩ := th
  cases tpc with
  | idle =>
    cases tprog with
    | nil => cases hc
    | cons op rest =>
      cases op with
      | add sid c p =>
        simp only [stepCore] at hc
        split at hc <;> cases hc
        · exact .reader hg trivial rfl  -- a used connection id: skipped
        · rename_i hfr
          exact doAdd_effect hg fun e he hcc => hfr (List.any_eq_true.mpr ⟨e, he, beq_iff_eq.mpr hcc⟩)
      | remove c =>
        simp only [stepCore] at hc
        split at hc <;> cases hc
        · exact .reader hg trivial rfl  -- no such closure
        · rename_i hfind
          exact doRemoveStart_effect hg (List.mem_of_find?_eq_some hfind)
      | closeSession sid => cases hc; exact doCloseSession_effect hg sid
      | list sid => cases hc; exact .reader hg trivial rfl
      | sendTo sid p m => cases hc; exact doSendTo_effect hg t sid p m
      | bcast sid m => cases hc; exact doBcastStart_effect hg m fun _ => bcastTargets_live hg
      | bcastExcept sid p m =>
        cases hc; exact doBcastStart_effect hg m fun _ hc => bcastTargets_live hg (bcastExceptTargets_sub hc)
  | bcastHold sid m targets =>
    simp only [stepCore] at hc
    split at hc <;> cases hc
    rename_i hp
    exact doHold_effect hg (hi.rlock_pos hth rfl) hpc hp
  | removeClose sid c =>
    cases hc
    have hgone : c ∈ s.gone := hpc
    exact .closing hg hgone (hpc := trivial) (h0 := rfl) (h1 := rfl) (hgc := fun sid' (h : sid = sid') => h)
      (hcl := fun x (h : c = x) => Or.inl h.symm)
  | removeGC sid => cases hc; exact doRemoveGC_effect hg sid
  | closeLoop targets =>
    simp only [stepCore] at hc
    split at hc <;> cases hc
    rename_i hp
    exact doCloseLoop_effect hg hpc hp

theorem step_effect (hi : Inv s) (hs : step s t pick = some s') :
    ∃ th s1 pc prog, s.threads[t]? = some th ∧ (needsWrite th && s.rlock != 0) = false ∧
      Effect s th.pc (needsWrite th) s1 pc ∧ s' = { s1 with threads := s1.threads.set t ⟨pc, prog⟩ } := by
  unfold step at hs
  split at hs
  · cases hs
  · rename_i th hth
    split at hs
    · cases hs
    · rename_i hguard
      split at hs
      · cases hs
      · rename_i hc
        exact ⟨th, _, _, _, hth, Bool.eq_false_iff.mpr hguard, stepCore_effect hi (List.mem_of_getElem? hth) hc,
          (Option.some.inj hs).symm⟩

theorem step_inv (hi : Inv s) (hs : step s t pick = some s') : Inv s' := by
  obtain ⟨th, s1, pc, prog, hth, hguard, he, rfl⟩ := step_effect hi hs
  obtain ⟨hlt, hget⟩ := List.getElem?_eq_some_iff.mp hth
  refine { glob := { he.glob with }, pcs := fun th' hth' => ?_, lock := ?_ }
  · change pcOK s1 th'.pc
    rcases List.mem_or_eq_of_mem_set hth' with h | rfl
    · rw [he.threads] at h
      -- a thread inside a broadcast holds the read lock, so this step is not one under the write lock
      refine pcOK_mono he.gone (fun hh => he.live ?_) (hi.pcs th' h)
      have hpos : (s.rlock != 0) = true := bne_iff_ne.mpr (Nat.ne_of_gt (hi.rlock_pos h hh))
      rwa [hpos, Bool.and_true] at hguard
    · exact he.pc_ok
  · -- `List.countP_set` is stated with a subtraction; `hle` makes it exact for `omega`
    have hle : (if isHold th then 1 else 0) ≤ s.threads.countP isHold := by
      split
      · exact List.countP_pos_iff.mpr ⟨th, List.mem_of_getElem? hth, ‹_›⟩
      · exact Nat.zero_le _
    have hl := hi.lock
    have hr : s1.rlock + (if isHold th then 1 else 0) = s.rlock + (if isHold ⟨pc, prog⟩ then 1 else 0) := he.rlock
    show s1.rlock = ((s1.threads.set t ⟨pc, prog⟩).filter isHold).length
    rw [← List.countP_eq_length_filter] at hl ⊢
    rw [he.threads, List.countP_set hlt, hget]
    omega

theorem deliver_eq_some (hs : deliver s c = some s') :
    ∃ d ∈ s.inbox, s' = { s with inbox := s.inbox.erase d, outbox := s.outbox ++ [d] } := by
  unfold deliver at hs
  split at hs
  · cases hs
  · rename_i hfind
    exact ⟨_, List.mem_of_find?_eq_some hfind, (Option.some.inj hs).symm⟩

theorem deliver_inv (hi : Inv s) (hs : deliver s c = some s') : Inv s' := by
  obtain ⟨d, hd, rfl⟩ := deliver_eq_some hs
  have hiso := hi.glob.isolated
  simp only [List.forall_mem_append] at hiso
  obtain ⟨⟨hin, hout⟩, hdr⟩ := hiso
  refine ⟨{ hi.glob with isolated := ?_ }, hi.pcs, hi.lock⟩
  simp only [List.forall_mem_append, List.forall_mem_singleton]
  exact ⟨⟨fun x hx => hin x (List.mem_of_mem_erase hx), hout, hin d hd⟩, hdr⟩

end

/-- states reachable from the empty hub by any schedule of thread steps (with any loop picks) and writer goroutines -/
inductive Reachable (cap : Nat) (progs : List (List Op)) : St → Prop
  | init : Reachable cap progs (init cap progs)
  | act {s s' : St} (a : Act) : Reachable cap progs s → act s a = some s' → Reachable cap progs s'

theorem inv_init (cap : Nat) (progs : List (List Op)) : Inv (init cap progs) := by
  constructor
  · constructor <;> simp [init]
  · intro th hth
    simp only [init, List.mem_map] at hth
    obtain ⟨p, _, rfl⟩ := hth
    trivial
  · simp only [init]
    induction progs with
    | nil => rfl
    | cons p ps ih => simpa [List.filter_cons, isHold, pcHold] using ih

theorem inv_reachable {cap : Nat} {progs : List (List Op)} {s : St} (h : Reachable cap progs s) : Inv s := by
  induction h with
  | init => exact inv_init cap progs
  | act a _ hact ih =>
    cases a with
    | thr t pick => exact step_inv ih hact
    | writer c => exact deliver_inv ih hact

/-! ### nothing leaks -/

/-- An obligation `A → B` that a thread may carry in its program counter (`P`) survives the step of the thread at index `t`
if that thread alone does not drop it: whoever else carried it still does. -/
theorem carried_set {l : List Thread} {t : Nat} {th : Thread} (ht : l[t]? = some th) (new : Thread) {P : Pc → Prop}
    {A B A' B' : Prop} (hold : A → B ∨ ∃ th' ∈ l, P th'.pc) (hstep : (A → B ∨ P th.pc) → A' → B' ∨ P new.pc) :
    A' → B' ∨ ∃ th' ∈ l.set t new, P th'.pc := by
  intro ha'
  by_cases hloc : A → B ∨ P th.pc
  · exact (hstep hloc ha').imp_right fun hp => ⟨new, List.mem_set (List.getElem?_eq_some_iff.mp ht).1 new, hp⟩
  · -- `A` holds, `B` fails and `th` does not carry it: another thread `th'` does, and `l.set t new` keeps `th'`
    have ha : A := Classical.byContradiction fun hn => hloc fun ha => absurd ha hn
    rcases hold ha with hb | ⟨th', hth', hp⟩
    · exact absurd (fun _ => Or.inl hb) hloc
    · obtain ⟨i, hi⟩ := List.mem_iff_getElem?.mp hth'
      have hne : t ≠ i := by
        rintro rfl
        cases ht.symm.trans hi
        exact hloc fun _ => Or.inr hp
      exact Or.inr ⟨th', List.mem_iff_getElem?.mpr ⟨i, (List.getElem?_set_ne hne).trans hi⟩, hp⟩

theorem leak_step {s s' : St} {t : Nat} {pick : Conn} (hi : Inv s) (hl : Leak s) (hs : step s t pick = some s') :
    Leak s' := by
  obtain ⟨th, s1, pc, prog, hth, -, he, rfl⟩ := step_effect hi hs
  rw [← he.threads] at hth
  exact {
    gc := fun sid => carried_set hth ⟨pc, prog⟩ (hold := he.threads ▸ hl.gc sid) (hstep := he.gc sid)
    close := fun c => carried_set hth ⟨pc, prog⟩ (hold := he.threads ▸ hl.close c) (hstep := he.close c) }

theorem leak_reachable {cap : Nat} {progs : List (List Op)} {s : St} (h : Reachable cap progs s) : Leak s := by
  induction h with
  | init => exact ⟨nofun, nofun⟩
  | act a hr hact ih =>
    cases a with
    | thr t pick => exact leak_step (inv_reachable hr) ih hact
    | writer c =>
      obtain ⟨d, -, rfl⟩ := deliver_eq_some hact
      exact ⟨ih.gc, ih.close⟩

/-! ## The property -/

variable {cap : Nat} {progs : List (List Op)} {s : St}

/-- **No crash**: in no interleaving does any thread send on a closed channel. -/
theorem C11_no_panic (h : Reachable cap progs s) : s.panicked = false := (inv_reachable h).glob.no_panic

/-- the tables are exactly the specification: `sessions`/`byPeerID` hold the connected peers and nobody else -/
theorem C11_tables_are_spec (h : Reachable cap progs s) :
    (∀ e, e ∈ s.conns ↔ e ∈ s.live) ∧ (∀ e, e ∈ s.idx ↔ e ∈ s.live) :=
  ⟨(inv_reachable h).glob.conns_live, (inv_reachable h).glob.idx_live⟩

/-- **Routable**: a connected peer (added, not replaced, its remove not begun, its session not closed) is found by
`SendTo`, on an open channel, and the envelope is queued there (or skipped because 256 are waiting) — whatever
else is going on, and whether or not the session was empty at some time before. -/
theorem C11_routable (h : Reachable cap progs s) {e : Entry} (he : e ∈ s.live) (t : Nat) (m : Msg) :
    (doSendTo s t e.sid e.peer m).results = s.results ++ [.sent t e.sid e.peer true] ∧
    e.conn ∉ s.closed ∧
    (⟨e.conn, e.sid, m⟩ ∈ (doSendTo s t e.sid e.peer m).inbox ∨ ⟨e.conn, e.sid, m⟩ ∈ (doSendTo s t e.sid e.peer m).dropped) := by
  have hg := (inv_reachable h).glob
  have hnc := hg.live_not_closed he
  rw [doSendTo_live hg he]
  simp only [trySend, if_neg hnc]
  split
  · exact ⟨rfl, hnc, Or.inl (List.mem_append_right _ (List.mem_singleton_self _))⟩
  · exact ⟨rfl, hnc, Or.inr (List.mem_append_right _ (List.mem_singleton_self _))⟩

/-- `SendTo` to a peer id nobody is connected under reports "not found" -/
theorem C11_not_connected_not_found (h : Reachable cap progs s) (sid : Sid) (p : Peer)
    (hn : ∀ e ∈ s.live, ¬ (e.sid = sid ∧ e.peer = p)) (t : Nat) (m : Msg) :
    doSendTo s t sid p m = { s with results := s.results ++ [.sent t sid p false] } :=
  doSendTo_not_live (inv_reachable h).glob hn t m

/-- what `List` returns -/
def listPeers (s : St) (sid : Sid) : List Peer := if sid ∈ s.reg then (connsOf s sid).map (·.peer) else []

/-- **Listed = connected**: `List` names exactly the peer ids connected to the session. -/
theorem C11_listed_iff_connected (h : Reachable cap progs s) (sid : Sid) (p : Peer) :
    p ∈ listPeers s sid ↔ ∃ e ∈ s.live, e.sid = sid ∧ e.peer = p := by
  have hg := (inv_reachable h).glob
  unfold listPeers
  split
  · simp only [List.mem_map, mem_connsOf hg, and_assoc]
  · rename_i hreg
    exact ⟨nofun, fun ⟨e, he, hs, _⟩ => absurd (hs ▸ hg.live_reg e he) hreg⟩

/-- **Left = unlisted, for good**: once a connection was unregistered (its remove began, it was replaced, its
session was closed) it is in neither table … -/
theorem C11_left_unlisted (h : Reachable cap progs s) {c : Conn} (hc : c ∈ s.gone) :
    (∀ e ∈ s.conns, e.conn ≠ c) ∧ (∀ e ∈ s.idx, e.conn ≠ c) := by
  have hg := (inv_reachable h).glob
  exact ⟨fun e he heq => hg.live_open e ((hg.conns_live e).mp he) (heq ▸ hc),
         fun e he heq => hg.live_open e ((hg.idx_live e).mp he) (heq ▸ hc)⟩

/-- … and it stays unregistered in every later state -/
theorem C11_gone_forever (h : Reachable cap progs s) {s' : St} (a : Act) (ha : act s a = some s') {c : Conn}
    (hc : c ∈ s.gone) : c ∈ s'.gone := by
  cases a with
  | writer w =>
    obtain ⟨d, -, rfl⟩ := deliver_eq_some ha
    exact hc
  | thr t pick =>
    obtain ⟨th, s1, pc, prog, -, -, he, rfl⟩ := step_effect (inv_reachable h) ha
    exact he.gone c hc

/-- beginning `remove` unregisters the connection at once (first locked region) -/
theorem C11_remove_unregisters (e : Entry) : ∀ x ∈ (doRemoveStart s e).1.live, x.conn ≠ e.conn := by
  intro x hx
  unfold doRemoveStart at hx
  split at hx <;> exact bne_iff_ne.mp (List.mem_filter.mp hx).2

/-- **No leak**: when no operation is in progress, a session nobody is connected to has no routing state left, and
every channel of an unregistered connection is closed. -/
theorem C11_no_leak (h : Reachable cap progs s) (hq : ∀ th ∈ s.threads, th.pc = .idle) :
    (∀ sid, (∀ e ∈ s.live, e.sid ≠ sid) → sid ∉ s.reg ∧ (∀ e ∈ s.conns, e.sid ≠ sid) ∧ (∀ e ∈ s.idx, e.sid ≠ sid)) ∧
    (∀ c ∈ s.gone, c ∈ s.closed) := by
  have hg := (inv_reachable h).glob
  have hl := leak_reachable h
  constructor
  · intro sid hempty
    refine ⟨fun hreg => ?_, fun e he => hempty e ((hg.conns_live e).mp he), fun e he => hempty e ((hg.idx_live e).mp he)⟩
    rcases hl.gc sid hreg with ⟨e, he, hes⟩ | ⟨th, hth, hp⟩
    · exact hempty e he hes
    · rw [hq th hth] at hp; exact pendGC_idle hp
  · intro c hc
    rcases hl.close c hc with hcl | ⟨th, hth, hp⟩
    · exact hcl
    · rw [hq th hth] at hp; exact absurd hp pendClose_idle

/-- the read lock is held by exactly the threads inside a broadcast loop; steps that need the write lock are
disabled meanwhile (`step`), so the lock is only ever held within the steps of this model -/
theorem C11_lock_discipline (h : Reachable cap progs s) : s.rlock = (s.threads.filter isHold).length :=
  (inv_reachable h).lock

theorem stepCore_enabled (s : St) (t : Nat) {th : Thread} (hpc : pcOK s th.pc) (hfin : finished th = false) :
    ∃ pick, (stepCore s t th pick).isSome = true := by
  obtain ⟨tpc, tprog⟩ := th
  cases tpc with
  | idle =>
    cases tprog with
    | nil => cases hfin
    | cons op rest =>
      refine ⟨0, ?_⟩
      cases op with
      | add sid c p => simp only [stepCore]; split <;> rfl
      | remove c => simp only [stepCore]; split <;> rfl
      | _ => rfl
  | bcastHold sid m targets =>
    obtain ⟨c, hc⟩ := List.exists_mem_of_ne_nil _ hpc.1
    exact ⟨c, by simp only [stepCore, if_pos hc]; rfl⟩
  | removeClose sid c => exact ⟨0, rfl⟩
  | removeGC sid => exact ⟨0, rfl⟩
  | closeLoop targets =>
    obtain ⟨c, hc⟩ := List.exists_mem_of_ne_nil _ hpc.1
    exact ⟨c, by simp only [stepCore, if_pos hc]; rfl⟩

/-- **No deadlock**: as long as some thread has not finished its program, some thread can take a step. -/
theorem C11_progress (h : Reachable cap progs s) (hu : ∃ th ∈ s.threads, finished th = false) :
    ∃ t pick, (step s t pick).isSome = true := by
  have hi := inv_reachable h
  -- while the read lock is held, a thread that holds it can go on; otherwise any unfinished thread can
  obtain ⟨th, hth, hfin, hguard⟩ : ∃ th ∈ s.threads, finished th = false ∧ (needsWrite th && s.rlock != 0) = false := by
    by_cases h0 : s.rlock = 0
    · obtain ⟨th, hth, hfin⟩ := hu
      exact ⟨th, hth, hfin, by simp [h0]⟩
    · have hpos : 0 < (s.threads.filter isHold).length := hi.lock ▸ Nat.pos_of_ne_zero h0
      obtain ⟨⟨tpc, tprog⟩, hmem⟩ := List.exists_mem_of_length_pos hpos
      obtain ⟨hth, hh⟩ := List.mem_filter.mp hmem
      cases tpc with
      | bcastHold sid m targets => exact ⟨_, hth, rfl, rfl⟩
      | _ => cases hh
  obtain ⟨t, ht⟩ := List.mem_iff_getElem?.mp hth
  obtain ⟨pick, hp⟩ := stepCore_enabled s t (hi.pcs th hth) hfin
  obtain ⟨r, hr⟩ := Option.isSome_iff_exists.mp hp
  exact ⟨t, pick, by simp only [step, ht, hguard, hr]; rfl⟩

/-- isolation at the hub: an envelope is only ever queued on the channel of a connection that was added to the
session the operation named -/
theorem C11_session_scoped (h : Reachable cap progs s) :
    ∀ d ∈ s.inbox ++ s.outbox ++ s.dropped, ∃ e ∈ s.closures, e.conn = d.conn ∧ e.sid = d.sid :=
  (inv_reachable h).glob.isolated

/-! ### non-vacuity: concrete runs that meet the hypotheses above -/

theorem Reachable.run (hs : Reachable cap progs s) (sched : List Act) :
    Reachable cap progs (TV.Hub.run s sched) := by
  induction sched generalizing s with
  | nil => exact hs
  | cons a as ih =>
    simp only [TV.Hub.run]
    cases ha : TV.Hub.act s a with
    | none => exact ih hs
    | some s' => exact ih (.act a hs ha)

theorem reachable_run (cap : Nat) (progs : List (List Op)) (sched : List Act) :
    Reachable cap progs (run (TV.Hub.init cap progs) sched) :=
  Reachable.init.run sched

/-- two peers connected, a broadcast half done (read lock held), a remove waiting for the write lock -/
def demoProgs : List (List Op) := [[.add 1 1 1, .add 1 2 2, .bcast 1 7], [.remove 1]]
def demoState : St := run (TV.Hub.init 256 demoProgs) [.thr 0 0, .thr 0 0, .thr 0 0, .thr 0 1, .thr 1 0]

example : Reachable 256 demoProgs demoState := reachable_run _ _ _
example : demoState.live = [⟨1, 1, 1⟩, ⟨1, 2, 2⟩] ∧ demoState.rlock = 1 ∧
    demoState.threads = [⟨.bcastHold 1 7 [2], []⟩, ⟨.idle, [.remove 1]⟩] ∧
    demoState.inbox = [⟨1, 1, 7⟩] := by decide
/-- the remove step was skipped: the write lock is not available while the broadcast is inside -/
example : step demoState 1 0 = none := by decide
example : ∃ th ∈ demoState.threads, finished th = false := ⟨_, List.mem_cons_self .., rfl⟩

/-- quiescent state after a replacement, a CloseSession and removes: hypotheses of `C11_no_leak` -/
def demoProgs2 : List (List Op) :=
  [[.add 1 1 1, .remove 1], [.add 1 2 1, .sendTo 1 1 5, .remove 2], [.add 2 3 3, .closeSession 2]]
def demoState2 : St := run (TV.Hub.init 256 demoProgs2)
  [.thr 0 0, .thr 1 0, .thr 2 0, .thr 1 0, .thr 0 0, .thr 2 0, .thr 2 3, .thr 1 0, .thr 1 0, .thr 1 0]

example : Reachable 256 demoProgs2 demoState2 := reachable_run _ _ _
example : (∀ th ∈ demoState2.threads, th.pc = .idle) ∧ demoState2.gone = [1, 3, 2] ∧ demoState2.reg = [] ∧
    demoState2.results = [.sent 1 1 1 true] ∧ demoState2.inbox = [⟨2, 1, 5⟩] := by decide

/-! ## the decision structure of the source, as regenerated on this run (xlate, `Gen/Shapes.lean`) -/

open TV.Gen.Shapes in
/-- `Add` with its `remove` closure (replacement test, still-registered test, index ownership test, GC of the *current* empty map),
`SendTo`, `BroadcastExcept`, `CloseSession`: every `if` condition in source order -/
theorem C11_source_shapes :
    hub_add_and_remove = ["err != nil", "h.sessions[sessionID] == nil", "h.byPeerID[sessionID] == nil", "exists && oldConnID != p.ConnID",
      "exists && oldConnID != p.ConnID ; ok", "!exists", "!stillExists", "exists", "exists ; peerIDMap[p.PeerID] == p.ConnID",
      "ok && len(current) == 0"] ∧
    hub_sendto = ["!exists", "!exists", "!exists"] ∧
    hub_bcast_except = ["!exists", "exists", "connID == exceptConnID"] ∧
    hub_close_session = ["!exists"] ∧
    -- the per-connection writer goroutine: on a failed socket write it only stops consuming; it never closes the send channel
    -- (closing is `closeSend`'s, after the connection was unlinked) - the model's writer has no step that closes anything
    hub_writer = ["{ defer close(done) for env := range ch { if err := send(env); err != nil { return } } }"] := ⟨rfl, rfl, rfl, rfl, rfl⟩

end TV.C11
