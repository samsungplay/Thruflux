import ThruVerif.Model.Decision
import ThruVerif.Gen.Shapes
import ThruVerif.Props.C01
import ThruVerif.Proofs.Once
/-!
# C02 — No false success under faults

Layered on `Props/C01`: a damaged frame never ends up in a file finalised ok (`C02_corrupt`), a failed
file stays failed (`fin_final`), and the endpoints' return decisions report success only with every file
finalised ok / confirmed. Together with `C01_file_fidelity`: a receiver that returns success holds the
source bytes in every chunk of every file, whatever happened on the network.
-/
namespace TV.C02
open TV.Decision TV.FileSys

/-- Whichever `select` case fires, the receiver returns success only when every
    file of the manifest has been finalised with ok = true. -/
theorem C02_receiver_decision (completed total : Nat) (endReceived : Bool) (ev : RecvEv)
    (h : recvTurn completed total endReceived ev = .ok) : completed ≥ total := by
  -- every `.ok` of `recvTurn` stands under the test `completed ≥ total`: take that away and no case returns `.ok`
  apply Decidable.byContradiction
  intro hlt
  cases ev with
  -- these three have a second test left (`isEOF` / `isNil` / `ok`), so they need one more split
  | controlErr | dataErr | handled => simp only [recvTurn, hlt, and_false, if_false] at h; split at h <;> cases h
  | _ => simp only [recvTurn, hlt, and_false, if_false] at h; cases h

/-- The sender returns success only if no error was recorded and the receiver
    confirmed every file (and End was written). -/
theorem C02_sender_decision (transferErr : Bool) (confirmed total : Nat) (endWritten : Bool)
    (h : sendReturn transferErr confirmed total endWritten = .ok) : transferErr = false ∧ confirmed ≥ total := by
  unfold sendReturn at h
  by_cases h1 : transferErr = true
  · rw [if_pos h1] at h; cases h
  · by_cases h2 : confirmed < total
    · rw [if_neg h1, if_pos h2] at h; cases h
    · exact ⟨eq_false_of_ne_true h1, Nat.le_of_not_lt h2⟩

/-- Per file, under arbitrary corruption, loss of frames (never delivered), duplication
    and reordering: ok-finalised ⇒ identical; a corrupted frame ⇒ the file fails; verdicts are final. -/
theorem C02_file (src disk0 : List Nat) (bits0 : List Bool) (h0 : InitOk src disk0 bits0)
    (s : St) (hr : Reachable (init src disk0 bits0) s) :
    (s.fin = some true → ∀ i, i < src.length → gn s.disk i = gn src i) ∧
    (∀ a s' b, s.fin = some b → step s a = some s' → s'.fin = some b) :=
  ⟨C01_file_fidelity src disk0 bits0 h0 s hr, fun a s' b hb hs => fin_final s s' a b hb hs⟩

-- the unfixed behaviour, as a model fact: counting a failed file would make `endRecord` return ok
example : recvTurn 1 1 false .endRecord = .ok ∧ recvTurn 0 1 false .endRecord = .err := ⟨rfl, rfl⟩


/-! ## the receiver's main loop, as regenerated on this run (xlate, `Gen/Shapes.lean`) -/

/-- per `case` of the receiver's last `for { select … }`: the communication and every `if` condition inside it (enclosing
conditions first). `Decision.recvTurn` was transcribed from exactly this text; success is returned only where
`completedCount >= totalFiles` stands. -/
theorem C02_source_recv_loop : TV.Gen.Shapes.recv_main_loop =
    ["<-recvCtx.Done() :: recvErr != nil",
     "<-doneCh :: endReceived && completedCount >= totalFiles",
     "err := <-controlErr :: err != nil && !errors.Is(err, io.EOF) | err != nil && !errors.Is(err, io.EOF) ; isGracefulRemoteClose(err) && completedCount >= totalFiles | completedCount >= totalFiles",
     "err := <-dataErrCh :: err != nil | err != nil ; isGracefulRemoteClose(err) && completedCount >= totalFiles",
     "ev := <-controlCh :: ev.typ == controlTypeEnd | ev.typ == controlTypeEnd ; completed >= totalFiles | err != nil"] := rfl

end TV.C02

namespace TV.Once

/-! ### `completedCount` counts files, not finalisation attempts (`Model/Once`) -/

/-- However many goroutines try to finalise however many files, in any interleaving of
their gate and count sections: `completedCount` is the number of *distinct* files finalised with verdict ok. -/
theorem C02_completed_counts_distinct_files (as : List Step) (s : St) (h : run true init as = some s) :
    s.completed = s.counted.length ∧ s.counted.Nodup ∧ ∀ f ∈ s.counted, f ∈ s.done := by
  have hI := inv_run inv_init h
  obtain ⟨_, hcounted, _⟩ := List.nodup_append.mp hI.nodup
  exact ⟨hI.count, hcounted, fun f hf => hI.isdone f (List.mem_append_right _ hf)⟩

/-- Hence the test every success exit of the receiver makes (`completedCount >= totalFiles`,
`C02_receiver_decision`) holds only when every file of the manifest was finalised ok: the files are `0 .. total-1`. -/
theorem C02_success_means_every_file (total : Nat) (as : List Step) (s : St) (h : run true init as = some s)
    (hfiles : ∀ f ok, Step.gate f ok ∈ as → f < total) (hc : s.completed ≥ total) : ∀ f, f < total → f ∈ s.counted := by
  obtain ⟨hcount, hnd, _⟩ := C02_completed_counts_distinct_files as s h
  have hlt : ∀ f ∈ s.counted, f < total := fun f hf =>
    counted_from_gates inv_init nofun hfiles h f (List.mem_append_right _ hf)
  have hsub : s.counted ⊆ List.range total := fun f hf => List.mem_range.mpr (hlt f hf)
  have hsp : s.counted.Subperm (List.range total) := List.subperm_of_subset hnd hsub
  have hperm : s.counted.Perm (List.range total) := hsp.perm_of_length_le (by simp; omega)
  intro f hf
  exact hperm.symm.subset (List.mem_range.mpr hf)

/-- premises satisfiable: two files, file 0 finalised from three goroutines at once (two of them find the flag set) -/
example : ∃ s, run true init [.gate 0 true, .gate 0 true, .gate 1 true, .gate 0 false, .count 1 true, .count 0 true] = some s ∧
    s.completed = 2 ∧ s.counted = [0, 1] := ⟨_, rfl, rfl, rfl⟩

/-- test and set of the flag in two critical sections (a seeded change): one file finalised from the data reader and from the
control loop is counted twice - `completedCount >= totalFiles` then holds for two files although file 1 was never finalised -/
theorem C02_double_count_without_atomic_gate :
    ∃ s, run false init [.gate 0 true, .gate 0 true, .set 0 true, .set 0 true, .count 0 true, .count 0 true] = some s ∧
      s.completed = 2 ∧ 1 ∉ s.done := ⟨_, rfl, rfl, by decide⟩

open TV.Gen.Shapes in
/-- `finalizeFile` tests and sets `state.done` in one critical section before anything else, and counts afterwards -/
theorem C02_source_finalize_once :
    finalize_gate = ["state.mu.Lock()", "if state.done { state.mu.Unlock() return }", "state.done = true", "state.mu.Unlock()"] ∧
    finalize_done_sets = ["state.done = true", "completedCount++"] := ⟨rfl, rfl⟩

open TV.Gen.Shapes in
/-- the goroutine that waits for a file's `FileDone` at the sender: a rejected file records the error and returns *before* the slot
is released and `completedCount` is incremented - the sender's "all files confirmed" never includes a rejected file
(`Decision.sendReturn`'s `confirmed`) -/
theorem C02_source_sender_confirm : send_confirm_goroutine = ["fileDone, err := doneRegistry.wait(transferCtx, state.key)", "if err != nil { setErr(err) return }", "if !fileDone.OK { if fileDone.ErrMsg == \"\" { if opts.FileDoneFn != nil { opts.FileDoneFn(state.item.RelPath, false) } setErr(fmt.Errorf(\"receiver reported failure for %s\", state.item.RelPath)) } else { if opts.FileDoneFn != nil { opts.FileDoneFn(state.item.RelPath, false) } setErr(fmt.Errorf(\"receiver reported failure for %s: %s\", state.item.RelPath, fileDone.ErrMsg)) } return }", "if opts.FileDoneFn != nil { opts.FileDoneFn(state.item.RelPath, true) }", "schedMu.Lock()", "for i := 0; i < len(activeFiles); i++ { if activeFiles[i] == state { activeFiles = append(activeFiles[:i], activeFiles[i+1:]...) if activeIdx >= len(activeFiles) { activeIdx = 0 } break } }", "if key, ok := keyByRelPath[state.item.RelPath]; ok { sched.Remove(key) }", "schedMu.Unlock()", "state.closeFile()", "statsMu.Lock()", "activeCount--", "completedCount++", "remainingBytes -= state.item.Size", "active := activeCount", "completed := completedCount", "remaining := remainingBytes", "statsMu.Unlock()", "updateStats(active, completed, remaining)", "if totalFiles > 0 && completed >= totalFiles { signalDone() }", "signalWake()"] := rfl

end TV.Once
