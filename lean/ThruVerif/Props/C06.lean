import ThruVerif.Model.Sidecar
import ThruVerif.Proofs.Codec
import ThruVerif.Gen.Consts
import ThruVerif.Proofs.Resume
import ThruVerif.Model.Entry
import ThruVerif.Model.Begin
import ThruVerif.Proofs.Step
import ThruVerif.Gen.Shapes
/-!
# C06 — Stale, foreign or damaged resume state is never trusted  (metadata part)

What `LoadSidecar` accepts is well-formed, what `Flush` writes is read back unchanged, and a sidecar is
used only when its identity triple equals the requested one. The behaviour of the resumed transfer from
tampered states is decided by the per-file protocol model (`Props/C01`) together with the tamper runs.
-/
namespace TV.C06
open TV TV.Codec TV.Sidecar

theorem crcBit_lt (c : Nat) (h : c < 2 ^ 32) : crcBit c < 2 ^ 32 := by
  unfold crcBit
  split
  · exact Nat.xor_lt_two_pow (by omega) (by decide)
  · omega

theorem crcByte_lt (c : Nat) (b : UInt8) (h : c < 2 ^ 32) : crcByte c b < 2 ^ 32 := by
  unfold crcByte
  iterate 8 apply crcBit_lt
  exact Nat.xor_lt_two_pow h (Nat.lt_trans b.toNat_lt (by decide))

theorem crc32c_lt (bs : Bytes) : crc32c bs < 2 ^ 32 :=
  Nat.xor_lt_two_pow (List.foldlRecOn (motive := (· < 2 ^ 32)) bs crcByte (by decide) fun c h b _ => crcByte_lt c b h)
    (by decide)

/-- field limits of a sidecar the code can write -/
structure Wf (s : Sc) : Prop where
  hid : s.fileID.length < 2 ^ 16
  hfs : s.fileSize < 2 ^ 64
  hcs : s.chunkSize < 2 ^ 32
  htot : s.total < 2 ^ 32
  hbm : s.bitmap.length < 2 ^ 32
  hok : bitmapOk s.bitmap s.total = true

theorem parse_ok_iff {magic : Bytes} {version : Nat} {data : Bytes} {s : Sc} :
    parse magic version data = .ok s ↔
      6 ≤ data.length ∧ data.take 4 = magic ∧ bitmapOk s.bitmap s.total = true ∧
      ∃ r, decL layout (data.drop 4) = .ok ([.n version, .n s.chunkSize, .n s.fileSize, .n s.total, .bs s.fileID, .bs s.bitmap,
        .n (crc32c (data.take (data.length - 4)))], r) := by
  constructor
  · fun_cases parse magic version data
    -- the branch in which every test passed; the others end in an error
    case case7 h6 hm v cs fs tot fid bm crc r hd hv hc hb =>
      rintro ⟨⟩
      obtain rfl : v = version := Decidable.not_not.1 hv
      obtain rfl : crc32c (data.take (data.length - 4)) = crc := Decidable.not_not.1 hc
      have hb : bitmapOk bm tot = true := by simpa using hb
      exact ⟨Nat.not_lt.1 h6, Decidable.not_not.1 hm, hb, r, hd⟩
    all_goals nofun
  · rintro ⟨h6, hm, hok, r, hd⟩
    simp [parse, Nat.not_lt.2 h6, hm, hd, hok]

/-- What `Flush` writes, `LoadSidecar` reads back unchanged. -/
theorem C06_roundtrip (magic : Bytes) (version : Nat) (s : Sc) (hm : magic.length = 4) (hv : version < 2 ^ 16) (h : Wf s) :
    parse magic version (serialize magic version s) = .ok s := by
  obtain ⟨hid, hfs, hcs, htot, hbm, hok⟩ := h
  have henc : serialize magic version s = magic ++ (encL layout [.n version, .n s.chunkSize, .n s.fileSize, .n s.total,
      .bs s.fileID, .bs s.bitmap, .n (crc32c (body magic version s))] ++ []) := by
    simp only [serialize, body, layout, List.take, encL, encF, List.append_assoc, List.append_nil]
  have hbody : (serialize magic version s).take ((serialize magic version s).length - 4) = body magic version s := by
    unfold serialize
    exact List.take_left' (by rw [List.length_append, putBE_length, Nat.add_sub_cancel])
  refine parse_ok_iff.2 ⟨?_, ?_, hok, [], ?_⟩
  · simp only [serialize, body, List.length_append, putBE_length, hm]
    omega
  · rw [henc, List.take_left' hm]
  · rw [hbody, henc, List.drop_left' hm]
    -- each field within the width `layout` gives it (`2 ^ 16 = 256 ^ 2` and so on, by evaluation)
    exact decL_encL _ _ _ (.cons hv (.cons hcs (.cons hfs (.cons htot (.cons (fits_bytes hid) (.cons (fits_bytes hbm)
      (.cons (crc32c_lt _) .nil)))))))

/-- Whatever bytes are on disk: an accepted sidecar has exactly ⌈total/8⌉ bitmap
    bytes and no bit at an index ≥ total, so the number of set bits never exceeds `total`. -/
theorem C06_wellformed (magic : Bytes) (version : Nat) (data : Bytes) (s : Sc) (h : parse magic version data = .ok s) :
    s.bitmap.length = (s.total + 7) / 8 ∧ noStrayBits s.bitmap s.total = true := by
  obtain ⟨-, -, hok, -⟩ := parse_ok_iff.1 h
  simpa [bitmapOk] using hok

/-- `LoadSidecar` decides every byte string (error or record) -/
theorem C06_parse_total (magic : Bytes) (version : Nat) (data : Bytes) :
    (∃ e, parse magic version data = .error e) ∨ (∃ s, parse magic version data = .ok s) := by
  cases parse magic version data with
  | error e => exact Or.inl ⟨e, rfl⟩
  | ok s => exact Or.inr ⟨s, rfl⟩

/-- A stored sidecar is used only if its (id, size, chunk size) equal the requested ones;
    anything else — unreadable, damaged, foreign — yields a fresh all-zero sidecar. -/
theorem C06_identity (magic : Bytes) (version : Nat) (data : Option Bytes) (fid : Bytes) (fs cs : Nat) (s : Sc)
    (h : loadValid magic version data fid fs cs = some s) :
    s.fileID = fid ∧ s.fileSize = fs ∧ s.chunkSize = cs ∧ ∃ d, data = some d ∧ parse magic version d = .ok s := by
  revert h
  fun_cases loadValid magic version data fid fs cs
  -- the branch that yields `some`; the others yield `none`
  case case4 d s' hp hne =>
    rintro ⟨⟩
    simp only [not_or, Decidable.not_not] at hne
    obtain ⟨hcs, hfs, hid⟩ := hne
    exact ⟨hid, hfs, hcs, d, rfl, hp⟩
  all_goals nofun

/-- too-short and wrong-magic files are refused -/
theorem C06_small (magic : Bytes) (version : Nat) (data : Bytes) (h : data.length < 6) :
    parse magic version data = .error .tooSmall := by
  rw [parse, if_pos h]

-- non-vacuity
example : Wf { fileID := [97], fileSize := 74, chunkSize := 32, total := 3, bitmap := [3] } :=
  ⟨by decide, by decide, by decide, by decide, by decide, by decide⟩
example : bitmapOk [0xF8] 3 = false := by decide      -- stray bits 3..7 with total 3
example : bitmapOk [0x07] 3 = true := by decide

/-! ### which stored state a beginning file resumes from (`Model/Entry`) -/

open TV.Entry in
theorem kept_iff {df : DataFile} {fs : Nat} : kept df fs = true ↔ df = .present fs := by
  cases df <;> simp [kept]

open TV.Entry in
theorem entry_eq (magic : Bytes) (version : Nat) (df : DataFile) (primary fallback : Option Bytes) (fid : Bytes) (fs cs : Nat) :
    entry magic version df primary fallback fid fs cs =
      if kept df fs then (loadValid magic version primary fid fs cs).or (loadValid magic version fallback fid fs cs) else none := by
  unfold entry
  cases kept df fs
  · rfl
  · simp only [if_true]
    cases loadValid magic version primary fid fs cs <;> rfl

open TV.Entry in
/-- Whatever bytes lie at the primary and the fallback metadata location and whatever
became of the data file: the receiver resumes from a stored record only if the data file is there with exactly the announced
length and the record - a well-formed one, from one of the two locations - was written for this id, this size and this chunk size.
Metadata left over from a deleted or shortened data file, or from another file, is never used. -/
theorem C06_entry_trusts_only_matching_state (magic : Bytes) (version : Nat) (df : DataFile) (primary fallback : Option Bytes)
    (fid : Bytes) (fs cs : Nat) (s : Sc) (h : entry magic version df primary fallback fid fs cs = some s) :
    df = .present fs ∧ s.fileID = fid ∧ s.fileSize = fs ∧ s.chunkSize = cs ∧
    ∃ d, (primary = some d ∨ fallback = some d) ∧ parse magic version d = .ok s := by
  rw [entry_eq] at h
  split at h
  · -- the record comes from one of the two places, by the same rule
    have ⟨data, hor, hl⟩ : ∃ data, (primary = data ∨ fallback = data) ∧ loadValid magic version data fid fs cs = some s := by
      rcases Option.or_eq_some_iff.1 h with hl | ⟨_, hl⟩
      · exact ⟨_, .inl rfl, hl⟩
      · exact ⟨_, .inr rfl, hl⟩
    obtain ⟨h1, h2, h3, d, rfl, hp⟩ := C06_identity magic version data fid fs cs s hl
    exact ⟨kept_iff.1 ‹kept df fs = true›, h1, h2, h3, d, hor, hp⟩
  · cases h

open TV.Entry in
/-- What the receiver calls: it resumes from a stored record only if the data file it is about to
write is there with exactly the announced length and the record is the well-formed one lying *next to that file*, written for this
id, size and chunk size. No other location is consulted. -/
theorem C06_entry_only_next_to_the_file (magic : Bytes) (version : Nat) (df : DataFile) (primary : Option Bytes)
    (fid : Bytes) (fs cs : Nat) (s : Sc) (h : entryAt magic version df primary fid fs cs = some s) :
    df = .present fs ∧ s.fileID = fid ∧ s.fileSize = fs ∧ s.chunkSize = cs ∧ ∃ d, primary = some d ∧ parse magic version d = .ok s := by
  obtain ⟨h1, h2, h3, h4, d, hd, hp⟩ := C06_entry_trusts_only_matching_state magic version df primary none fid fs cs s h
  rcases hd with hd | hd
  · exact ⟨h1, h2, h3, h4, d, hd, hp⟩
  · cases hd

open TV.Entry in
/-- the receiver as it was: with no record next to the file being written, a record lying under `<out>/<root>` - written for the
file of the same name over there - was resumed from, provided only that *some* file of the announced length stood at `<out>/<rel
path>`; its bitmap then made the sender skip chunks that file never held -/
theorem C06_entry_refuted_before_fix (magic : Bytes) (version : Nat) (elsewhere : Bytes) (fid : Bytes) (fs cs : Nat) (s : Sc)
    (hl : loadValid magic version (some elsewhere) fid fs cs = some s) :
    entryOld magic version (.present fs) none (some elsewhere) fid fs cs = some s := by
  rw [entryOld, entry_eq, if_pos (kept_iff.2 rfl)]
  exact hl

open TV.Entry in
/-- premises satisfiable / the two clauses apart: with the data file gone nothing is resumed, whatever the metadata says -/
example (magic : Bytes) (version : Nat) (p f : Option Bytes) (fid : Bytes) (fs cs : Nat) :
    entry magic version .absent p f fid fs cs = none ∧ entry magic version (.present (fs + 1)) p f fid fs cs = none := by
  constructor <;> simp [entry_eq, kept]

open TV.Gen.Shapes in
/-- the source `Model/Entry` was transcribed from: the stat test and what is removed when it fails, the arguments of
`LoadOrCreateSidecarWithFallback`, and its decisions (primary first, identity triple compared, mismatching file removed) -/
theorem C06_source_entry :
    entry_stat_test = ["opts.Resume ; statErr != nil || info.Size() != int64(begin.FileSize)"] ∧
    entry_removes = ["SidecarPath(baseDir, \"\", sidecarIdentifier(item))"] ∧
    -- both loads (`buildResumeInfo`, `handleFileBegin`) pass the record under `baseDir` and an empty fallback path (`entryAt`);
    -- the data file the stat test looks at lies under the same `baseDir`
    entry_load_args = ["primary, \"\", state.item.ID, state.item.Size, state.chunkSize", "primary, \"\", item.ID, int64(begin.FileSize), begin.ChunkSize"] ∧
    entry_primary_path = ["SidecarPath(baseDir, \"\", sidecarIdentifier(state.item))", "SidecarPath(baseDir, \"\", sidecarIdentifier(item))"] ∧
    entry_file_path = ["filepath.Join(baseDir, filepath.FromSlash(begin.RelPath))"] ∧
    entry_load_ifs = ["chunkSize == 0", "path == \"\"", "err != nil", "sc.ChunkSize != chunkSize || sc.FileSize != fileSize || sc.FileID != fileID",
      "err != nil", "err != nil ; ok", "err != nil", "err != nil ; ok"] := ⟨rfl, rfl, rfl, rfl, rfl, rfl⟩

end TV.C06

namespace TV.Resume

/-! ### the resume negotiation (`Model/Resume`): what the receiver reports and what the sender plans from it -/

/-- The repair argument for any report, not only the receiver's own: if every recorded chunk other than the one at `lastVerified`
is good and a known hash is that chunk's, a sender that verifies leaves every chunk good. A recorded chunk that is not good is then
the one at `lastVerified`: with the hash known the mismatch triggers the re-send, with the hash unknown the chunk is not skipped. -/
theorem goodAfter_of_sound (c : Cfg) (info : Info) (good : Nat → Bool) (hv : c.verify = true) (hh : c.hashOn = true)
    (hg : info.hashKnown = true → info.lastVerified < info.total → info.hashGood = good info.lastVerified)
    (hsound : ∀ i, i < info.total → bit info.bitmap i = true → i ≠ info.lastVerified → good i = true)
    (i : Nat) (hi : i < info.total) : goodAfter good info (plan c info) i = true := by
  unfold goodAfter
  cases hgi : good i with
  | true => rfl
  | false =>
    refine (sent_iff _ _ _).2 ⟨hi, ?_⟩
    cases hbi : bit info.bitmap i with
    | false => exact .inl rfl
    | true =>
      have hil : i = info.lastVerified := Decidable.byContradiction fun hne => by simp [hsound i hi hbi hne] at hgi
      rw [hil] at hi hgi
      cases hk : info.hashKnown with
      | true => exact .inr (.inr ⟨by simp [verifyNeeded_eq, hv, hh, hk, hi], (hg hk hi).trans hgi, hil⟩)
      | false => exact .inr (.inl (hil ▸ force_le_unknown hk hi))

/-- The receiver found a sidecar whose recorded chunks are in the file except, possibly, the
highest recorded one (torn by power loss). With verification on (`--resume-verify` other than none and a hash algorithm: what
`thru host` runs with), for any verify tail (`thru host`: 0), any bitmap, any position of the damaged chunk, and whether or not the
receiver could hash it in time: after the resumed run every chunk of the file is good - the damaged chunk is re-sent because its
hash differs or, when the hash is unknown, because it lies at or above `forceSendFrom` (fix 85dab2f; before it this needed a tail
of at least one chunk, which the live sender does not have); nothing that is missing is skipped. -/
theorem C06_resume_repairs_last_chunk (c : Cfg) (total : Nat) (b : List Bool) (good : Nat → Bool) (hashed : Bool)
    (ht : total > 0) (hv : c.verify = true) (hh : c.hashOn = true)
    (hsound : ∀ i, bit b i = true → highest b total ≠ some i → good i = true) (i : Nat) (hi : i < total) :
    goodAfter good (recvInfo total b good hashed c.hashOn) (plan c (recvInfo total b good hashed c.hashOn)) i = true := by
  cases hhi : highest b total with
  | none =>
    simp only [recvInfo, hhi]
    -- nothing recorded: the report has `lastVerified = total`, so nothing is asked about its hash
    exact goodAfter_of_sound c _ good hv hh (hg := fun _ h => absurd h (Nat.lt_irrefl _))
      (hsound := fun j _ hbj _ => hsound j hbj (by simp [hhi])) i hi
  | some h =>
    simp only [recvInfo, hhi]
    -- the report has `lastVerified = h` and `hashGood = good h`
    exact goodAfter_of_sound c _ good hv hh (hg := fun _ _ => rfl)
      (hsound := fun j _ hbj hne => hsound j hbj fun e => hne (Option.some.inj (hhi.symm.trans e)).symm) i hi

/-- nothing recorded: every chunk travels -/
theorem C06_nothing_recorded_sends_all (c : Cfg) (total : Nat) (b : List Bool) (good : Nat → Bool) (hashed : Bool)
    (hn : highest b total = none) (i : Nat) (hi : i < total) :
    sent (recvInfo total b good hashed c.hashOn) (plan c (recvInfo total b good hashed c.hashOn)) i = true := by
  simp only [recvInfo, hn]
  exact (sent_iff _ _ _).2 ⟨hi, .inl (highest_none hn i hi)⟩

open TV.Gen.Shapes in
/-- the source `Model/Resume.plan` / `recvInfo` were transcribed from: every assignment to `forceSendFrom`, every `if` that mentions it
(enclosing conditions first), the definitions of `verifyNeeded`, `allComplete`, `hashUnknown`, `minForce`, the chunk that is re-sent,
and what the receiver puts into its report -/
theorem C06_source_plan :
    plan_force_assigns = ["uint32(0)", "verifiedChunk + 1", "totalChunks", "0", "tail", "totalChunks", "minForce", "verifiedChunk"] ∧
    plan_force_ifs = ["totalChunks > 0 && len(info.Bitmap) > 0 ; !allComplete ; tail > 0 && forceSendFrom > 0",
      "totalChunks > 0 && len(info.Bitmap) > 0 ; !allComplete ; tail > 0 && forceSendFrom > 0 ; tail >= forceSendFrom",
      "totalChunks > 0 && len(info.Bitmap) > 0 ; forceSendFrom > totalChunks",
      "totalChunks > 0 && len(info.Bitmap) > 0 ; hashUnknown && totalChunks > 0 ; forceSendFrom > minForce",
      "totalChunks > 0 && len(info.Bitmap) > 0 ; hashUnknown && totalChunks > 0 ; verifiedChunk < totalChunks && forceSendFrom > verifiedChunk",
      "totalChunks > 0 && len(info.Bitmap) > 0 ; opts.ResumeStatsFn != nil ; forceSendFrom > 0"] ∧
    plan_verify_needed = ["verifyMode != \"none\" && verifiedChunk < totalChunks && hashAlg != HashAlgNone && !hashUnknown"] ∧
    plan_all_complete = ["totalChunks > 0 && completedChunks >= totalChunks"] ∧
    plan_hash_unknown = ["info.LastVerifiedHash == resumeHashUnknown"] ∧
    plan_min_force = ["uint32(0)", "totalChunks - tail"] ∧
    plan_resend_chunk = ["vChunk"] ∧
    report_last_verified = ["state.totalChunks", "uint32(highest)", "state.totalChunks"] ∧
    report_hash = ["hashValue", "resumeHashUnknown"] ∧
    report_bitmap = ["state.sidecar.MarshalBitmap()"] := ⟨rfl, rfl, rfl, rfl, rfl, rfl, rfl, rfl, rfl, rfl⟩

-- non-vacuity and the excluded configurations, on 8 chunks with chunks 0,1,2,5 recorded and chunk 5 torn
def exGood : Nat → Bool := fun i => i == 0 || i == 1 || i == 2
def exB : List Bool := [true, true, true, false, false, true, false, false]
-- tail 1: chunks 3,4 (missing), 5 (torn: hash differs; also within the tail), 6,7 travel; 0..2 do not
example : sentList (recvInfo 8 exB exGood true true) (plan ⟨1, true, true⟩ (recvInfo 8 exB exGood true true)) = [3, 4, 5, 6, 7] := by decide
-- the live configuration (tail = 0) with the hash not computed in time: the torn chunk 5 travels (before fix 85dab2f the real sender
-- sent [3, 4, 6, 7] for this report - the replay recorded in known_findings.json)
example : sentList (recvInfo 8 exB exGood false true) (plan ⟨0, true, true⟩ (recvInfo 8 exB exGood false true)) = [3, 4, 5, 6, 7] := by decide
-- verification switched off by the user and everything recorded: nothing travels, a torn last chunk stays
example : sentList (recvInfo 3 [true, true, true] (fun i => i != 2) true true) (plan ⟨1, false, true⟩ (recvInfo 3 [true, true, true] (fun i => i != 2) true true)) = [] := by decide

end TV.Resume

namespace TV.Begin

/-! ### a resumed file with everything recorded: when may the receiver call it complete (`Model/Begin`) -/

structure Inv (s : St) : Prop where
  ph : s.phase ≥ 1 → s.verifyAsked = true
  reg : s.registered = true → s.phase = 2
  fin : s.finalised = true → ∃ n, s.endCount = some n ∧ s.framesRecv ≥ n

theorem inv_init : Inv init := ⟨nofun, nofun, nofun⟩

theorem complete_asked {s : St} (hv : s.verifyAsked = true) (hc : complete s = true) :
    ∃ n, s.endCount = some n ∧ s.framesRecv ≥ n := by
  unfold complete at hc
  rw [hv] at hc
  cases he : s.endCount with
  | none => simp [he] at hc
  | some n => exact ⟨n, rfl, by simpa [he] using hc⟩

theorem inv_step {s s' : St} {a : Step} (hI : Inv s) (h : step true s a = some s') : Inv s' := by
  obtain ⟨hp, hr, hf⟩ := hI
  cases a with
  | begin_ =>
    simp only [step] at h
    split at h
    · -- phase 0, the first action: the report
      cases h
      exact ⟨fun _ => rfl, fun hreg => by have := hr hreg; omega, hf⟩
    · -- phase 1, the second action: the registration
      split at h <;> cases h
      exact ⟨fun _ => hp (by omega), fun _ => rfl, hf⟩
  | frame =>
    simp only [step] at h
    split at h
    · -- finalised already: the frame is drained
      cases h; exact ⟨hp, hr, hf⟩
    · -- the frame is processed: the file is registered, so the report has gone out
      split at h <;> cases h
      rename_i hnf hreg
      have hv : s.verifyAsked = true := hp (by have := hr hreg; omega)
      split
      next hc => exact ⟨hp, hr, fun _ => complete_asked hv hc⟩
      next => exact ⟨hp, hr, fun hfin => absurd hfin hnf⟩
  | fileEnd n =>
    simp only [step] at h
    split at h <;> cases h
    rename_i hc
    have hv : s.verifyAsked = true := hp (by omega)
    split
    next hcc => exact ⟨hp, hr, fun _ => complete_asked hv (Bool.and_eq_true_iff.1 hcc).2⟩
    next =>
      -- finalised already: the invariant's witness contradicts `endCount = none`
      exact ⟨hp, hr, fun hfin => by obtain ⟨m, hm, _⟩ := hf hfin; rw [hc.2] at hm; cases hm⟩

theorem inv_run {s s' : St} {as : List Step} (hI : Inv s) (h : run true s as = some s') : Inv s' :=
  run_keeps (nil := fun _ => rfl) (cons := fun s a as => by rw [run]; cases step true s a <;> rfl)
    (hstep := fun _ _ _ _ hI h => inv_step hI h) hI h

/-- Frames may overtake the file's `FileBegin` and readers may run between any two
actions of `handleFileBegin`: with the report built before the file is registered, a file whose chunks are all recorded is finalised
only after `FileEnd`, when every frame `FileEnd` announces has been processed - the re-send of a torn last chunk is one of them -/
theorem C06_all_recorded_file_waits_for_file_end (as : List Step) (s : St) (h : run true init as = some s) (hf : s.finalised = true) :
    ∃ n, s.endCount = some n ∧ s.framesRecv ≥ n :=
  (inv_run inv_init h).fin hf

/-- premises satisfiable: seven frames, two of them parked before the FileBegin is handled -/
example : ∃ s, run true init [.begin_, .begin_, .frame, .frame, .frame, .fileEnd 7, .frame, .frame, .frame, .frame] = some s ∧
    s.finalised = true ∧ s.framesRecv = 7 ∧ s.drained = 0 := ⟨_, rfl, rfl, rfl, rfl⟩

/-- the order before fix 91ddaf6 (registration, then report): a reader running between the two finalises the file at its first frame;
the six frames behind it are drained (the schedule replayed with `recv.file_begin.enter` held and a slow display callback) -/
theorem C06_all_recorded_file_refuted_before_fix :
    ∃ s, run false init [.begin_, .frame, .begin_, .frame, .frame, .frame, .frame, .frame, .frame] = some s ∧
      s.finalised = true ∧ s.framesRecv = 1 ∧ s.drained = 6 ∧ s.endCount = none := ⟨_, rfl, rfl, rfl, rfl, rfl⟩

open TV.Gen.Shapes in
/-- `handleFileBegin`: the report is built (`buildResumeInfo`, which sets `verifyAsked`) before the file is put into `stateByKey` and
the parked readers are signalled (the last entry is the `ResumeRequest` handler's own call) -/
theorem C06_source_begin_order :
    begin_order = ["info, err := buildResumeInfo(state)", "stateByKey[key] = state", "fileReady.signal(key)",
      "info, err := buildResumeInfo(state)"] := rfl

end TV.Begin
