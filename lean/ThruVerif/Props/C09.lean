import ThruVerif.Model.Race
import ThruVerif.Proofs.Step
import ThruVerif.Gen.Shapes
import ThruVerif.Proto.Race
/-!
# C09 — Connection racing leaves both peers on the same single connection

For every number of candidates and every interleaving of handshake completions on both sides, failures,
cancellations, claims, the caller's receive, the listener's accepts and the concurrent authentications.
-/
namespace TV.C09
open TV.Race

structure Inv (s : St) : Prop where
  handedWinner : ∀ i, task s i = .handed → s.winner = some i
  winnerHanded : ∀ i, s.winner = some i → task s i = .handed
  claimedIff : s.claimed = true ↔ (s.winner.isSome ∨ s.aborted = true)
  abortedClean : s.aborted = true → s.winner = none ∧ s.slot = none ∧ s.returned = none
  slotWinner : ∀ i, s.slot = some i → s.winner = some i ∧ s.returned = none
  retWinner : ∀ i, s.returned = some i → s.winner = some i
  authedRet : ∀ i ∈ s.authed, s.returned = some i
  primAuthed : ∀ i, s.primary = some i → i ∈ s.authed

/-- an index beyond the list reads `failed` -/
theorem taskL_failed_or_mem (l : List Task) (i : Nat) : taskL l i = .failed ∨ taskL l i ∈ l := by
  unfold taskL
  cases h : l[i]? with
  | none => exact Or.inl rfl
  | some t => exact Or.inr (List.mem_of_getElem? h)

theorem task_init (k i : Nat) : task (init k) i = .probing ∨ task (init k) i = .failed :=
  (taskL_failed_or_mem _ i).symm.imp_left List.eq_of_mem_replicate

theorem inv_init (k : Nat) : Inv (init k) :=
  { handedWinner := fun i h => by rcases task_init k i with h' | h' <;> rw [h'] at h <;> cases h
    winnerHanded := fun _ => nofun
    claimedIff := ⟨nofun, fun h => h.elim nofun nofun⟩
    abortedClean := nofun
    slotWinner := fun _ => nofun
    retWinner := fun _ => nofun
    authedRet := fun _ => nofun
    primAuthed := fun _ => nofun }

theorem taskL_set (l : List Task) (i j : Nat) (t : Task) (hi : taskL l i ≠ .failed) :
    taskL (l.set i t) j = if i = j then t else taskL l j := by
  have hlt : i < l.length := Decidable.byContradiction fun hc =>
    hi (by rw [taskL, List.getElem?_eq_none (Nat.le_of_not_lt hc)]; rfl)
  unfold taskL
  rw [List.getElem?_set, if_pos hlt]
  split <;> rfl

/-- an attempt that is not the winner moves on, and not to `handed` -/
theorem Inv.set_task {s : St} (h : Inv s) {i : Nat} {t₀ t : Task} (hi : task s i = t₀) (h₀ : t₀ ≠ .failed ∧ t₀ ≠ .handed)
    (ht : t ≠ .handed) : Inv { s with tasks := s.tasks.set i t } :=
  have hnf : task s i ≠ .failed := fun e => h₀.1 (hi.symm.trans e)
  { h with
    handedWinner := fun j hj => by
      rw [task, taskL_set _ _ _ _ hnf] at hj
      split at hj
      · exact absurd hj ht
      · exact h.handedWinner j hj
    winnerHanded := fun j hj => by
      -- the winner's task reads `handed`, task `i` does not
      have hne : i ≠ j := fun e => h₀.2 (hi.symm.trans (e ▸ h.winnerHanded j hj))
      rw [task, taskL_set _ _ _ _ hnf, if_neg hne]
      exact h.winnerHanded j hj }

theorem Inv.unclaimed {s : St} (h : Inv s) (hc : s.claimed = false) :
    s.winner = none ∧ s.slot = none ∧ s.returned = none ∧ s.aborted = false := by
  have hn : ¬ (s.winner.isSome ∨ s.aborted = true) := fun hh => by rw [← h.claimedIff, hc] at hh; cases hh
  have hw : s.winner = none := Option.not_isSome_iff_eq_none.mp fun hh => hn (Or.inl hh)
  refine ⟨hw, ?_, ?_, Bool.eq_false_iff.mpr fun hh => hn (Or.inr hh)⟩
  · exact Option.eq_none_iff_forall_ne_some.mpr fun i hi => nomatch hw.symm.trans (h.slotWinner i hi).1
  · exact Option.eq_none_iff_forall_ne_some.mpr fun i hi => nomatch hw.symm.trans (h.retWinner i hi)

theorem step_inv {s s' : St} {a : Step} (h : Inv s) (hs : step s a = some s') : Inv s' := by
  cases a with
  | clientDone i | clientFail i =>
    obtain ⟨hp, hs⟩ := Option.ite_none_right_eq_some.mp hs
    cases hs; exact h.set_task hp (by decide) (by decide)
  | cancelSeen i =>
    obtain ⟨⟨_, hp⟩, hs⟩ := Option.ite_none_right_eq_some.mp hs
    cases hs; exact h.set_task hp (by decide) (by decide)
  | claim i =>
    obtain ⟨hp, hs⟩ := Option.ite_none_right_eq_some.mp hs
    split at hs
    · -- the claim is taken: a loser, it closes its connection
      cases hs; exact h.set_task hp (by decide) (by decide)
    next hcl =>
      -- first claimant: becomes the winner; nobody was (`Inv.unclaimed`)
      cases hs
      obtain ⟨hw, _, hr, ha⟩ := h.unclaimed (Bool.eq_false_iff.mpr hcl)
      have hnf : task s i ≠ .failed := fun e => nomatch hp.symm.trans e
      exact { h with
        handedWinner := fun j hj => by
          rw [task, taskL_set _ _ _ _ hnf] at hj
          split at hj
          next e => exact congrArg some e
          next => exact nomatch hw.symm.trans (h.handedWinner j hj)
        winnerHanded := fun j (hj : some i = some j) => by
          rw [task, taskL_set _ _ _ _ hnf, if_pos (Option.some.inj hj)]
        claimedIff := iff_of_true rfl (Or.inl rfl)
        abortedClean := fun ha' => nomatch ha.symm.trans ha'
        slotWinner := fun j hj => ⟨hj, hr⟩
        retWinner := fun j hj => nomatch hr.symm.trans hj }
  | mainRecv =>
    rw [step] at hs
    split at hs
    next i hsl hret =>
      cases hs
      exact { h with
        abortedClean := fun ha => have ⟨_, hslot, _⟩ := h.abortedClean ha; nomatch hsl.symm.trans hslot
        slotWinner := fun _ => nofun
        retWinner := fun j (hj : some i = some j) => (h.slotWinner i hsl).1.trans hj
        authedRet := fun j hj => nomatch hret.symm.trans (h.authedRet j hj) }
    · cases hs
  | mainGiveUp | srvDone i | authFail i =>
    obtain ⟨_, hs⟩ := Option.ite_none_right_eq_some.mp hs
    cases hs; exact { h with } -- `Inv` mentions no field these steps write
  | callerCancel => cases hs; exact { h with }
  | mainAbort =>
    obtain ⟨⟨_, hret, _, _⟩, hs⟩ := Option.ite_none_right_eq_some.mp hs
    split at hs
    next hcl =>
      -- nobody has claimed: the caller takes the claim
      cases hs
      obtain ⟨hw, hsl, _, _⟩ := h.unclaimed hcl
      exact { h with claimedIff := iff_of_true rfl (Or.inr rfl), abortedClean := fun _ => ⟨hw, hsl, hret⟩ }
    next hcl =>
      split at hs
      next i hsl =>
        -- a dial holds the claim and its connection is in the channel: closed, winner no more
        cases hs
        have hw : s.winner = some i := (h.slotWinner i hsl).1
        have hnf : task s i ≠ .failed := fun e => nomatch (h.winnerHanded i hw).symm.trans e
        exact { h with
          handedWinner := fun j hj => by
            rw [task, taskL_set _ _ _ _ hnf] at hj
            split at hj
            · cases hj
            next e => exact absurd (Option.some.inj (hw.symm.trans (h.handedWinner j hj))) e
          winnerHanded := fun _ => nofun
          claimedIff := iff_of_true (Bool.of_not_eq_false hcl) (Or.inr rfl)
          abortedClean := fun _ => ⟨rfl, rfl, hret⟩
          slotWinner := fun _ => nofun
          retWinner := fun j hj => nomatch hret.symm.trans hj }
      · cases hs
  | accept =>
    rw [step] at hs
    split at hs
    · cases hs; exact { h with }
    · cases hs
  | authOk i =>
    obtain ⟨⟨_, hret⟩, hs⟩ := Option.ite_none_right_eq_some.mp hs
    cases hs
    exact { h with
      authedRet := fun j hj => (List.mem_append.mp hj).elim (h.authedRet j) fun hj => List.mem_singleton.mp hj ▸ hret
      primAuthed := fun j hj => List.mem_append_left _ (h.primAuthed j hj) }
  | pickPrimary =>
    rw [step] at hs
    split at hs
    next i rest ha hp =>
      cases hs
      have hi : i ∈ s.authed := ha ▸ List.mem_cons_self
      exact { h with primAuthed := fun j (hj : some i = some j) => Option.some.inj hj ▸ hi }
    · cases hs

theorem reachable_inv {k : Nat} {s : St} (h : Reachable k s) : Inv s := by
  induction h with
  | init => exact inv_init k
  | step a _ hs ih => exact step_inv ih hs

theorem reachable_run {k : Nat} {s : St} (hs : Reachable k s) (as : List Step) {s' : St}
    (h : run s as = some s') : Reachable k s' :=
  run_keeps (P := Reachable k) (nil := fun _ => rfl) (cons := fun s a as => by rw [run]; cases step s a <;> rfl)
    (hstep := fun a _ _ _ hs h => Reachable.step a hs h) hs h

/-- at any moment at most one attempt has been handed to the caller (exactly one "won") -/
theorem C09_one_winner {k : Nat} {s : St} (h : Reachable k s) {i j : Nat} (hi : task s i = .handed)
    (hj : task s j = .handed) : i = j :=
  have hv := reachable_inv h
  Option.some.inj ((hv.handedWinner i hi).symm.trans (hv.handedWinner j hj))

/-- **One connection on the dialing side.** Once `ProbeAndDial` has returned `c` and every dial goroutine has
finished, `c` is the only connection still open: every other attempt failed, was cancelled, or closed itself —
also the ones that completed after the winner had been taken out of the channel. -/
theorem C09_single {k : Nat} {s : St} (h : Reachable k s) {c : Nat} (hr : s.returned = some c) (hq : quiescent s) :
    ∀ i, isOpen s i ↔ i = c := by
  have hv := reachable_inv h
  have hc : task s c = .handed := hv.winnerHanded c (hv.retWinner c hr)
  intro i
  constructor
  · rintro (he | hh)
    · exact absurd he (hq i).2
    · exact C09_one_winner h hh hc
  · rintro rfl
    exact Or.inr hc

/-- for every candidate index, also beyond the list (such an index reads as `failed`) -/
theorem gives_up_all {s s' : St} (hs : step s .mainGiveUp = some s') (i : Nat) :
    task s i = .failed ∨ task s i = .cancelled ∨ task s i = .closedLoser := by
  obtain ⟨⟨_, _, _, _, hall⟩, _⟩ := Option.ite_none_right_eq_some.mp hs
  rcases taskL_failed_or_mem s.tasks i with h | h
  · exact Or.inl h
  · simpa only [Bool.or_eq_true, beq_iff_eq, or_assoc] using List.all_eq_true.mp hall _ h

/-- **Failure is reported only when nothing was established.** If `ProbeAndDial` returned "all probes failed", then at
that moment no attempt had a connection: every dial had failed (none was still in flight, none was claimed or closed
as a loser, since a loser implies a winner in the channel, which is taken first). -/
theorem C09_gives_up_only_without_connection {s s' : St} (hs : step s .mainGiveUp = some s') :
    ∀ i, i < s.tasks.length → task s i = .failed ∨ task s i = .cancelled ∨ task s i = .closedLoser :=
  fun i _ => gives_up_all hs i

/-- **Both peers on the same connection.** The accepting side commits only to the connection the dialing side was
given: never to one that was abandoned (closed as loser, cancelled, dropped), whatever the order in which the listener
completed the handshakes. -/
theorem C09_agree {k : Nat} {s : St} (h : Reachable k s) {i : Nat} (hp : s.primary = some i) :
    s.returned = some i ∧ task s i = .handed := by
  have hv := reachable_inv h
  have hr := hv.authedRet i (hv.primAuthed i hp)
  exact ⟨hr, hv.winnerHanded i (hv.retWinner i hr)⟩

/-- every connection that passes authentication at the receiver — the transfer connection and any later extra one —
is the dialer's choice -/
theorem C09_only_chosen_authenticates {k : Nat} {s : St} (h : Reachable k s) {i : Nat} (ha : i ∈ s.authed) :
    s.returned = some i := (reachable_inv h).authedRet i ha

/-! ### authentication and the transfer start instead of waiting on abandoned connections -/

theorem run_append (s : St) (a b : List Step) :
    run s (a ++ b) = match run s a with | some s' => run s' b | none => none := by
  induction a generalizing s with
  | nil => rfl
  | cons x xs ih =>
    simp only [List.cons_append, run]
    split
    · exact ih _
    · rfl

/-- accepting drains the listener's queue whatever is in it (abandoned connections do not block the accept loop:
each one only occupies its own authentication goroutine) -/
theorem accept_all (s : St) :
    run s (List.replicate s.queue.length .accept) = some { s with queue := [], pending := s.pending ++ s.queue } := by
  generalize hq : s.queue = q
  induction q generalizing s with
  | nil => cases s; cases hq; simp [run]
  | cons x xs ih =>
    simp only [List.length_cons, List.replicate_succ, run, step, hq]
    rw [ih _ rfl]
    simp

/-- the schedule that gets there from any state, reachable or not: accept everything the listener has completed, authenticate `c`,
take the first authenticated connection -/
theorem starts_by {s : St} {c : Nat} (hr : s.returned = some c) (hc : c ∈ s.queue ∨ c ∈ s.pending) (hnone : s.primary = none)
    (hna : s.authed = []) :
    ∃ s', run s (List.replicate s.queue.length .accept ++ [.authOk c, .pickPrimary]) = some s' ∧ s'.primary = some c := by
  have hc1 : c ∈ s.pending ++ s.queue := List.mem_append.mpr hc.symm
  rw [run_append, accept_all]
  simp only [run, step, hc1, hr, and_self, if_true, hna, List.nil_append, hnone]
  exact ⟨_, rfl, rfl⟩

/-- **The transfer starts.** When the dialer has been given `c` and the listener has completed `c`'s handshake
(queued or already being authenticated), the receiver reaches `primary = c` — however many abandoned connections
the listener completed before it. -/
theorem C09_starts {k : Nat} {s : St} (h : Reachable k s) {c : Nat} (hr : s.returned = some c)
    (hc : c ∈ s.queue ∨ c ∈ s.pending) (hnone : s.primary = none) (hna : s.authed = []) :
    ∃ steps s', run s steps = some s' ∧ s'.primary = some c :=
  ⟨_, starts_by hr hc hnone hna⟩

/-! ### the caller gives up (its context is cancelled while the dials are running) -/

/-- **Nothing is left behind when the caller cancels.** Once `ProbeAndDial` has returned the cancellation and every dial goroutine
has finished, no attempt has a connection open - also not a dial whose handshake had completed before the cancellation and that
got to its claim only afterwards, and not one that had claimed the race at the same moment. -/
theorem C09_cancelled_leaves_nothing {k : Nat} {s : St} (h : Reachable k s) (ha : s.aborted = true) (hq : quiescent s) :
    ∀ i, ¬ isOpen s i := by
  have hi := reachable_inv h
  obtain ⟨hw, _, _⟩ := hi.abortedClean ha
  rintro i (he | hh)
  · exact (hq i).2 he
  · exact nomatch hw.symm.trans (hi.handedWinner i hh)

/-- and the accepting side commits to none of them: without a connection returned to the dialing side nothing passes authentication -/
theorem C09_cancelled_nothing_authenticates {k : Nat} {s : St} (h : Reachable k s) (ha : s.aborted = true) :
    s.authed = [] ∧ s.primary = none := by
  have hi := reachable_inv h
  obtain ⟨_, _, hr⟩ := hi.abortedClean ha
  have hau : s.authed = [] := List.eq_nil_iff_forall_not_mem.mpr fun x hx => nomatch hr.symm.trans (hi.authedRet x hx)
  refine ⟨hau, Option.eq_none_iff_forall_ne_some.mpr fun i hp => ?_⟩
  have := hi.primAuthed i hp
  rw [hau] at this; cases this

/-- the two outcomes exclude each other: a caller that was given a connection was not told "cancelled" -/
theorem C09_cancelled_or_returned {k : Nat} {s : St} (h : Reachable k s) (ha : s.aborted = true) : s.returned = none :=
  ((reachable_inv h).abortedClean ha).2.2

/-- premises satisfiable: candidate 0 completes its handshake, the caller cancels and returns, then 0 gets to its claim (and closes
itself); candidate 1 sees the cancellation in flight -/
example : (run (init 2) [.clientDone 0, .callerCancel, .mainAbort, .claim 0, .cancelSeen 1]).map
    (fun s => (s.aborted, s.returned, s.tasks)) = some (true, none, [.closedLoser, .cancelled]) := by decide

/-- a dial that had claimed the race when the cancellation was taken: its connection is taken out of the channel and closed -/
example : (run (init 1) [.clientDone 0, .claim 0, .callerCancel, .mainAbort]).map
    (fun s => (s.aborted, s.returned, s.slot, s.tasks)) = some (true, none, none, [.closedLoser]) := by decide

/-- the code as it was (the caller looked into the channel without taking the claim): a dial that got to its claim after the caller
had returned the cancellation put its connection into a channel nobody reads - it stayed open at both ends -/
theorem C09_cancelled_leaves_nothing_refuted_before_fix :
    (runOld (init 1) [.clientDone 0, .callerCancel, .mainAbort, .claim 0]).map
      (fun s => (s.aborted, s.returned, s.tasks)) = some (true, none, [.handed]) := by decide

/-! ### the full-strength statements fail for the code as it was (kept as refuted witnesses) -/

/-- before the repair (Proto/Race): a dial completing after the winner was taken found the slot free again -/
theorem C09_single_refuted_before_fix :
    (TV.RaceOld.run (TV.RaceOld.init 2) [.handshake 0, .handshake 1, .offer 0, .mainRecv, .offer 1]).map
      (fun s => (s.returned, TV.RaceOld.openConns s)) = some (some 0, [0, 1]) := by decide

/-- before the repair the listener committed to whichever handshake it completed first -/
theorem C09_agree_refuted_before_fix :
    (TV.RaceOld.run (TV.RaceOld.init 2) [.handshake 1, .handshake 0, .offer 0, .mainRecv, .offer 1]).map
      (fun s => (s.returned, s.serverOrder.head?)) = some (some 0, some 1) := TV.RaceOld.listener_disagrees

/-! ### non-vacuity -/

/-- three candidates: the listener completes the loser 1 first, then the dropped 2, then the winner 0 -/
def demo : List Step :=
  [.clientDone 0, .clientDone 1, .srvDone 1, .claim 0, .mainRecv, .claim 1, .cancelSeen 2, .srvDone 2, .srvDone 0,
   .accept, .accept, .accept, .authFail 1, .authOk 0, .pickPrimary]

example : (run (init 3) demo).map (fun s => (s.returned, s.primary, s.tasks, s.pending, s.discarded)) =
    some (some 0, some 0, [.handed, .closedLoser, .cancelled], [2], [1]) := by decide

example : ∃ s, Reachable 3 s ∧ s.returned = some 0 ∧ quiescent s ∧ s.primary = some 0 :=
  ⟨(run (init 3) demo).getD (init 3), reachable_run Reachable.init demo rfl, rfl, fun i =>
    -- quiescent: every index reads `failed` or an element of the list
    (taskL_failed_or_mem _ i).elim (fun h => by rw [task, h]; decide)
      ((by decide : ∀ t ∈ ((run (init 3) demo).getD (init 3)).tasks, t ≠ .probing ∧ t ≠ .established) _), rfl⟩

/-- the claim is one atomic compare-and-swap (regenerated from the source on this run): the model's `claim` step in the dial
goroutine, and the caller's own claim when it gives up (`mainAbort`) -/
theorem C09_source_claim : TV.Gen.Shapes.probe_claim =
    ["claimed.CompareAndSwap(false, true)", "!claimed.CompareAndSwap(false, true)"] := rfl

/-- inside a dial goroutine: the claim, then at once the hand-over into the channel, and only then log and status callback - the
model's `claim` step is claim + hand-over with nothing in between, which is what lets `mainAbort` take a claimed connection out of
the channel without waiting on foreign code -/
theorem C09_source_claim_order : TV.Gen.Shapes.probe_claim_order =
    ["claimed.CompareAndSwap(false, true)", "resultCh <- conn", "State: ProbeStateWon", "conn.CloseWithError(0, \"race_lost\")"] := rfl

/-- the caller's `select`, case by case: `mainRecv`, `mainAbort` (take the claim; if a dial holds it, its connection is in the
channel or about to be - take it out and close it) and `mainGiveUp` (a claimed connection in the channel is taken first) -/
theorem C09_source_select : TV.Gen.Shapes.probe_selects =
    ["conn := <-resultCh => verifhook.PointS(\"ice.main.got_result\", conn.RemoteAddr().String()); return conn, nil",
     "<-ctx.Done() => if !claimed.CompareAndSwap(false, true) { conn := <-resultCh conn.CloseWithError(0, \"probe_canceled\") }; return nil, ctx.Err()",
     "<-allDone => select { case conn := <-resultCh: return conn, nil default: }; return nil, fmt.Errorf(\"all probes failed\")"] := rfl

open TV.Gen.Shapes in
/-- direct and relay (`turn:`) candidates are raced in two *sequential* phases of the same procedure: the relay phase is entered only
after the direct phase has returned an error - which `probeWithTransport` does only once every direct dial has finished (the
"all done" case of `C09_gives_up_only_without_connection`) - so the theorems above apply to each phase on its own and no direct dial
is still running when a relay candidate wins -/
theorem C09_source_phases :
    probe_phases = ["directCandidates, p.transport", "turnCandidates, p.transport"] ∧
    probe_direct_phase = ["!p.config.TurnOnly && len(directCandidates) > 0"] ∧
    probe_turn_phase = ["len(turnCandidates) > 0"] ∧
    probe_phase_errs = ["len(turnCandidates) > 0 ; directErr != nil", "directErr != nil"] := ⟨rfl, rfl, rfl, rfl⟩

end TV.C09
