import ThruVerif.Model.SendFile
import ThruVerif.Gen.Shapes
import ThruVerif.Proofs.Sched
/-!
# C17 — Each needed chunk and each file is dispatched exactly once, then one FileEnd

Statements are over *arbitrary* operation lists: every interleaving of any number of workers' take /
finish / try-end steps with the arrival of the resume plan, the start of verification and its verdict.
-/
namespace TV.C17
open TV.SendFile

-- the cases of `scan`: no fuel; `next < total`, skipped (the scan goes on); `next < total`, found; `next ≥ total`
theorem scan_some {p total fuel next i n} (h : scan p total fuel next = (some i, n)) :
    next ≤ i ∧ n = i + 1 ∧ i < total ∧ skip p i = false := by
  fun_induction scan p total fuel next with
  | case1 => cases h
  | case2 fuel next hlt hs ih =>
    obtain ⟨hle, hrest⟩ := ih h
    exact ⟨Nat.le_of_succ_le hle, hrest⟩
  | case3 fuel next hlt hs =>
    cases h
    exact ⟨Nat.le_refl _, rfl, hlt, eq_false_of_ne_true hs⟩
  | case4 => cases h

theorem scan_none {p total fuel next n} (h : scan p total fuel next = (none, n)) (hf : total - next ≤ fuel) :
    next ≤ n ∧ total ≤ n := by
  fun_induction scan p total fuel next with
  | case1 => cases h; omega
  | case2 fuel next hlt hs ih => have := ih h (by omega); omega
  | case3 => cases h
  | case4 => cases h; omega

/-- `r` as a result of `take s` without its loop: in place of `scan`'s result, what `scan_some` and `scan_none` say of it -/
inductive TakeCase (s : St) (r : St × Option Nat) : Prop
  | resend (hr : s.resendPending = true)
      (e : r = ({ s with resendPending := false, inFlight := s.inFlight + 1 }, some s.resendChunk))
  | done (hr : s.resendPending = false) (hd : s.scheduleDone = true) (e : r = (s, none))
  | found (hr : s.resendPending = false) (i : Nat) (hlo : s.next ≤ i) (hlt : i < s.total) (hs : skip s.plan i = false)
      (e : r = ({ s with next := i + 1, inFlight := s.inFlight + 1, scheduleDone := decide (i + 1 ≥ s.total) }, some i))
  | exhausted (hr : s.resendPending = false) (n : Nat) (hlo : s.next ≤ n) (hhi : s.total ≤ n)
      (e : r = ({ s with next := n, scheduleDone := true }, none))

theorem take_spec (s : St) : TakeCase s (take s) := by
  fun_cases take s
  case case1 hr => exact .resend hr rfl
  case case2 hr hd => exact .done (eq_false_of_ne_true hr) hd rfl
  case case3 hr hd i n h =>
    obtain ⟨hlo, rfl, hlt, hs⟩ := scan_some h
    exact .found (eq_false_of_ne_true hr) i hlo hlt hs rfl
  case case4 hr hd n h =>
    obtain ⟨hlo, hhi⟩ := scan_none h (Nat.le_refl _)
    exact .exhausted (eq_false_of_ne_true hr) n hlo hhi rfl

/-- indices handed out by ordinary (non-resend) takes along a run -/
def normalTakes (s : St) : List Op → List Nat
  | [] => []
  | o :: os =>
    match o with
    | .take =>
      if s.resendPending then normalTakes (step s o).1 os
      else match (take s).2 with
        | some i => i :: normalTakes (step s o).1 os
        | none => normalTakes (step s o).1 os
    | _ => normalTakes (step s o).1 os

/-- number of re-sends handed out along a run -/
def resendTakes (s : St) : List Op → Nat
  | [] => 0
  | o :: os =>
    match o with
    | .take => (if s.resendPending then 1 else 0) + resendTakes (step s o).1 os
    | _ => resendTakes (step s o).1 os

def mismatches : List Op → Nat
  | [] => 0
  | .verdict true _ :: os => 1 + mismatches os
  | _ :: os => mismatches os

/-- `scheduleDone` means the cursor has passed every chunk -/
def Inv (s : St) : Prop := s.scheduleDone = true → s.total ≤ s.next

theorem inv_init (total : Nat) : Inv (init total) := by simp [Inv, init]

theorem cursor_step (s : St) (o : Op) :
    s.next ≤ (step s o).1.next ∧ (step s o).1.total = s.total ∧ (Inv s → Inv (step s o).1) := by
  cases o with
  | take =>
    show s.next ≤ (take s).1.next ∧ (take s).1.total = s.total ∧ (Inv s → Inv (take s).1)
    cases take_spec s with
    | resend _ e | done _ _ e =>
      rw [e]
      exact ⟨Nat.le_refl _, rfl, id⟩
    | found _ i hlo _ _ e =>
      rw [e]
      exact ⟨Nat.le_succ_of_le hlo, rfl, fun _ hd => of_decide_eq_true hd⟩
    | exhausted _ n hlo hhi e =>
      rw [e]
      exact ⟨hlo, rfl, fun _ _ => hhi⟩
  | finish => simp only [step, finish]; split <;> exact ⟨Nat.le_refl _, rfl, id⟩
  | tryEnd => simp only [step, tryEnd]; split <;> exact ⟨Nat.le_refl _, rfl, id⟩
  | applyPlan p => exact ⟨Nat.le_refl _, rfl, id⟩
  | verifyBegin => simp only [step]; split <;> exact ⟨Nat.le_refl _, rfl, id⟩
  | verdict m c => simp only [step]; (repeat' split) <;> exact ⟨Nat.le_refl _, rfl, id⟩

theorem next_mono (s : St) (o : Op) : s.next ≤ (step s o).1.next := (cursor_step s o).1

theorem total_step (s : St) (o : Op) : (step s o).1.total = s.total := (cursor_step s o).2.1

theorem inv_step (s : St) (o : Op) (h : Inv s) : Inv (step s o).1 ∧ (step s o).1.total = s.total := by
  obtain ⟨_, _, hinv⟩ := cursor_step s o
  exact ⟨hinv h, total_step s o⟩

theorem take_some_normal {s : St} {i : Nat} (hr : s.resendPending = false) (h : (take s).2 = some i) :
    s.next ≤ i ∧ (take s).1.next = i + 1 ∧ i < s.total ∧ skip s.plan i = false := by
  cases take_spec s with
  | resend hr' => rw [hr] at hr'; cases hr'
  | done _ _ e | exhausted _ _ _ _ e => rw [e] at h; cases h
  | found _ j hlo hlt hs e => rw [e] at h ⊢; cases h; exact ⟨hlo, rfl, hlt, hs⟩

theorem normalTakes_cons (s : St) (o : Op) (os : List Op) :
    normalTakes s (o :: os) = normalTakes (step s o).1 os ∨
    ∃ i, s.next ≤ i ∧ i < (step s o).1.next ∧ i < s.total ∧
      normalTakes s (o :: os) = i :: normalTakes (step s o).1 os := by
  cases o with
  | take =>
    simp only [normalTakes]
    split
    · exact Or.inl rfl
    · rename_i hr
      split
      · rename_i i hi
        obtain ⟨h1, h2, h3, _⟩ := take_some_normal (eq_false_of_ne_true hr) hi
        exact Or.inr ⟨i, h1, Nat.lt_of_lt_of_eq (Nat.lt_succ_self i) h2.symm, h3, rfl⟩
      · exact Or.inl rfl
  | _ => exact Or.inl rfl

theorem normalTakes_sorted (s : St) (ops : List Op) :
    (∀ i ∈ normalTakes s ops, s.next ≤ i ∧ i < s.total) ∧ (normalTakes s ops).Pairwise (· < ·) := by
  induction ops generalizing s with
  | nil => exact ⟨nofun, .nil⟩
  | cons o os ih =>
    obtain ⟨ihr, ihp⟩ := ih (step s o).1
    rw [total_step] at ihr
    rcases normalTakes_cons s o os with e | ⟨i, hlo, hcur, htot, e⟩ <;> rw [e]
    · exact ⟨fun j hj => ⟨Nat.le_trans (next_mono s o) (ihr j hj).1, (ihr j hj).2⟩, ihp⟩
    · -- `i` lies below the new cursor (`hcur`), every later index at or above it (`ihr`)
      have hlt : ∀ j ∈ normalTakes (step s o).1 os, i < j := fun j hj => Nat.lt_of_lt_of_le hcur (ihr j hj).1
      refine ⟨fun j hj => ?bounds, List.pairwise_cons.mpr ⟨hlt, ihp⟩⟩
      rcases List.mem_cons.mp hj with rfl | hj
      · exact ⟨hlo, htot⟩
      · exact ⟨Nat.le_trans hlo (Nat.le_of_lt (hlt j hj)), (ihr j hj).2⟩

/-- Ordinary takes hand out strictly increasing indices (hence pairwise distinct, each
    chunk to exactly one worker), all below `total` (`normalTakes_sorted`), for every operation sequence. -/
theorem C17_once (s : St) (ops : List Op) :
    (∀ i ∈ normalTakes s ops, s.next ≤ i) ∧ (normalTakes s ops).Pairwise (· < ·) :=
  ⟨fun i hi => ((normalTakes_sorted s ops).1 i hi).1, (normalTakes_sorted s ops).2⟩

/-- A chunk the known plan marks as present below the verification point is never
    handed out by an ordinary take; and what is handed out is a real chunk index. -/
theorem C17_skip (s : St) (i : Nat) (hr : s.resendPending = false) (h : (step s .take).2 = .chunk i) :
    skip s.plan i = false ∧ i < s.total := by
  simp only [step] at h
  split at h
  · rename_i j hj
    cases h
    obtain ⟨_, _, h3, h4⟩ := take_some_normal hr hj
    exact ⟨h4, h3⟩
  · cases h

theorem resendPending_step (s : St) (o : Op) : (step s o).1.resendPending =
    match o with
    | .take => false
    | .verdict true _ => s.verifyPending || s.resendPending
    | _ => s.resendPending := by
  cases o with
  | take =>
    show (take s).1.resendPending = false
    -- the re-send clears the flag; in the other three results it was `false` already (`hr`)
    cases take_spec s <;> simp [*]
  | finish => simp only [step, finish]; split <;> rfl
  | tryEnd => simp only [step, tryEnd]; split <;> rfl
  | applyPlan p => rfl
  | verifyBegin => simp only [step]; split <;> rfl
  | verdict m c => cases m <;> simp only [step] <;> split <;> simp [*]

/-- Re-sends handed out ≤ (one already pending) + number of mismatch verdicts:
    the chunk that failed verification is sent again at most once per mismatch, never spontaneously. -/
theorem C17_resend_once (s : St) (ops : List Op) :
    resendTakes s ops ≤ (if s.resendPending then 1 else 0) + mismatches ops := by
  induction ops generalizing s with
  | nil => exact Nat.zero_le _
  | cons o os ih =>
    have h := ih (step s o).1
    rw [resendPending_step] at h
    cases o with
    | take =>
      -- a take clears the flag: a re-send handed out now is paid for by the 1 the flag contributed
      have h' : resendTakes (step s .take).1 os ≤ mismatches os := by simpa using h
      show (if s.resendPending then 1 else 0) + resendTakes (step s .take).1 os ≤ (if s.resendPending then 1 else 0) + mismatches os
      exact Nat.add_le_add_left h' _
    | verdict m c =>
      cases m with
      | true =>
        -- a mismatch verdict may set the flag: the bound grows by at most the 1 this verdict adds to `mismatches`
        show resendTakes (step s (.verdict true c)).1 os ≤ _ + (1 + mismatches os)
        replace h : _ ≤ (if (s.verifyPending || s.resendPending) = true then 1 else 0) + mismatches os := h
        split at h <;> omega
      | false => exact h
    | _ => exact h

theorem final_induct {P : St → Prop} (hP : ∀ s o, P s → P (step s o).1) (s : St) (ops : List Op) (h : P s) :
    P (final s ops) := by
  induction ops generalizing s with
  | nil => exact h
  | cons o os ih => exact ih _ (hP s o h)

theorem inv_final (s : St) (ops : List Op) (h : Inv s) : Inv (final s ops) :=
  final_induct (fun s o h => (inv_step s o h).1) s ops h

/-! ### the end record, and nothing after it -/

/-- the file is closed for dispatch: the end record is out, the cursor is past every chunk, nothing is being verified or owed -/
def Closed (s : St) : Prop :=
  s.endSent = true ∧ s.scheduleDone = true ∧ s.verifyPending = false ∧ s.resendPending = false

theorem tryEnd_end (s : St) (h : (step s .tryEnd).2 = .fileEnd) :
    Closed (step s .tryEnd).1 ∧ (step s .tryEnd).1.inFlight = 0 ∧ s.endSent = false := by
  by_cases hc : canEnd s = true
  · simp only [step, tryEnd, hc, if_true]
    simp only [canEnd, Bool.and_eq_true, Bool.not_eq_true', beq_iff_eq] at hc
    obtain ⟨⟨⟨⟨hverify, hresend⟩, hdone⟩, hflight⟩, hend⟩ := hc
    exact ⟨⟨rfl, hdone, hverify, hresend⟩, hflight, hend⟩
  · simp [step, tryEnd, hc] at h

theorem end_spec (s : St) (o : Op) (h : (step s o).2 = .fileEnd) :
    Closed (step s o).1 ∧ (step s o).1.inFlight = 0 ∧ s.endSent = false := by
  cases o with
  | take => simp only [step] at h; split at h <;> cases h
  | finish => exact tryEnd_end { s with inFlight := s.inFlight - 1 } h
  | tryEnd => exact tryEnd_end s h
  | applyPlan p => cases h
  | verifyBegin => simp only [step] at h; split at h <;> cases h
  | verdict m c => simp only [step] at h; split at h <;> cases h

/-- Whenever a step emits the end-of-file record: nothing is in flight, every
    chunk index has been passed by the cursor, verification has been decided and no re-send is
    outstanding. -/
theorem C17_end_conditions (s : St) (o : Op) (hi : Inv s) (h : (step s o).2 = .fileEnd) :
    let s' := (step s o).1
    s'.inFlight = 0 ∧ s'.total ≤ s'.next ∧ s'.verifyPending = false ∧ s'.resendPending = false ∧
    s'.endSent = true ∧ s.endSent = false := by
  obtain ⟨⟨hend, hdone, hverify, hresend⟩, hflight, hbefore⟩ := end_spec s o h
  exact ⟨hflight, (inv_step s o hi).1 hdone, hverify, hresend, hend, hbefore⟩

theorem closed_step (s : St) (o : Op) (h : Closed s) :
    Closed (step s o).1 ∧ (step s o).2 ≠ .fileEnd ∧ ∀ i, (step s o).2 ≠ .chunk i := by
  obtain ⟨h1, h2, h3, h4⟩ := h
  -- the four flags decide every test of `take`, `canEnd`, `verifyBegin` and `verdict`
  cases o <;> simp [step, take, finish, tryEnd, canEnd, Closed, h1, h2, h3, h4]

def ends : List Out → Nat
  | [] => 0
  | .fileEnd :: os => 1 + ends os
  | _ :: os => ends os

theorem ends_cons_of_ne {out : Out} (l : List Out) (h : out ≠ .fileEnd) : ends (out :: l) = ends l := by
  cases out <;> first | rfl | exact absurd rfl h

theorem closed_run (s : St) (ops : List Op) (h : Closed s) : ends (run s ops) = 0 ∧ ∀ i, Out.chunk i ∉ run s ops := by
  induction ops generalizing s with
  | nil => exact ⟨rfl, fun _ => nofun⟩
  | cons o os ih =>
    obtain ⟨hc, he, hk⟩ := closed_step s o h
    obtain ⟨ih1, ih2⟩ := ih _ hc
    refine ⟨(ends_cons_of_ne _ he).trans ih1, fun i hi => ?_⟩
    rcases List.mem_cons.mp hi with hi | hi
    · exact hk i hi.symm
    · exact ih2 i hi

/-- The end-of-file record is emitted at most once in any run. -/
theorem C17_end_once (s : St) (ops : List Op) : ends (run s ops) ≤ 1 := by
  induction ops generalizing s with
  | nil => exact Nat.zero_le 1
  | cons o os ih =>
    by_cases he : (step s o).2 = .fileEnd
    · have := (closed_run _ os (end_spec s o he).1).1
      simp only [run, he, ends]
      omega
    · rw [run, ends_cons_of_ne _ he]
      exact ih _

/-- Once the schedule is done and no re-send is pending, no take succeeds (and after the end record
    no verification can start any more: `C17_nothing_after_end`). -/
theorem C17_last (s : St) (h1 : s.scheduleDone = true) (h2 : s.resendPending = false) :
    (step s .take).2 = .none ∧ (step s .take).1 = s := by
  simp [step, take, h1, h2]

theorem closed_after_end (s : St) (ops : List Op) (h : Out.fileEnd ∈ run s ops) : Closed (final s ops) := by
  induction ops generalizing s with
  | nil => cases h
  | cons o os ih =>
    rcases List.mem_cons.mp h with h | h
    · exact final_induct (fun s o h => (closed_step s o h).1) _ os (end_spec s o h.symm).1
    · exact ih _ h

/-- Once the end-of-file record has been emitted, no chunk is handed out any more, whatever happens
    afterwards - in particular a resume report that arrives only then starts no verification and causes no re-send (everything
    was sent, without a plan). Together with `C17_end_conditions`: the end record is the last thing dispatched for the file. -/
theorem C17_nothing_after_end (s : St) (before after : List Op) (h : Out.fileEnd ∈ run s before) :
    ∀ i, Out.chunk i ∉ run (final s before) after :=
  (closed_run _ after (closed_after_end s before h)).2

/-- why the order inside `applyResumeInfo` matters (tied by `send_apply_order` below): the plan put in force before verification is
    pending lets the workers run to the end record, after which `verifyBegin` declines - the chunk offered for verification is never
    decided. With `verifyBegin` first the end record waits for the verdict. -/
theorem C17_plan_before_verify_skips_verification :
    run (init 2) [.applyPlan { bitmap := [true, true], forceFrom := 2 }, .take, .tryEnd, .verifyBegin] =
      [.nothing, .none, .fileEnd, .declined] ∧
    run (init 2) [.verifyBegin, .applyPlan { bitmap := [true, true], forceFrom := 2 }, .take, .tryEnd, .verdict true 1, .take, .finish] =
      [.nothing, .nothing, .none, .nothing, .nothing, .chunk 1, .fileEnd] := ⟨rfl, rfl⟩

/-- premises satisfiable: one chunk, sent and ended; the late report (`verifyBegin`) is declined, a verdict has nobody to wake -/
example : run (init 1) [.take, .finish, .verifyBegin, .verdict true 0, .take] =
    [.chunk 0, .fileEnd, .declined, .declined, .none] := rfl

/-- the machine as it was: a report arriving after the end record started a verification, and its mismatch verdict handed the
    chunk out again *after* the end record -/
theorem C17_nothing_after_end_refuted_before_fix :
    runOld (init 1) [.take, .finish, .verifyBegin, .verdict true 0, .take] =
      [.chunk 0, .fileEnd, .nothing, .nothing, .chunk 0] := rfl

/-- A complete run does emit the record: with everything finished, verification
    decided and no re-send pending, the next finish/try-end emits it. -/
theorem C17_end_emitted (s : St) (h : canEnd s = true) : (step s .tryEnd).2 = .fileEnd := by
  simp [step, tryEnd, h]

/-! ### the P5 history (FileEnd overtaking the re-send) is no longer a run of the machine -/
def init4 : St :=
  { init 4 with verifyPending := true, plan := some { bitmap := [true, true, false, false], forceFrom := 2 } }

theorem resend_before_end :
    run init4 [.take, .take, .finish, .verdict true 1, .finish, .take, .finish] =
      [.chunk 2, .chunk 3, .nothing, .nothing, .nothing, .chunk 1, .fileEnd] := rfl

/-! ### files: the scheduler never hands out a file twice and always hands one out when it can -/
open TV.Sched in
/-- A key returned by `next` is marked started and is never returned again. -/
theorem C17_files_once (cfg : Cfg) (fs : List F) (pick : Nat) (k : Nat) (fs' : List F)
    (h : TV.Sched.next cfg fs pick = some (k, fs')) :
    (∃ f ∈ fs, f.key = k ∧ f.started = false) ∧ (∀ f ∈ fs', f.key = k → f.started = true) ∧
    (∀ pick' k' fs'', TV.Sched.next cfg fs' pick' = some (k', fs'') → (∃ f ∈ fs', f.key = k' ∧ f.started = false)) :=
  TV.Sched.next_spec cfg fs pick k fs' h

open TV.Sched in
/-- If nothing is started and something is pending, `next` returns a key. -/
theorem C17_files_progress (cfg : Cfg) (fs : List F) (pick : Nat) (hc : 1 ≤ cfg.smallSlots)
    (hnone : ∀ f ∈ fs, f.started = false) (hne : fs ≠ []) :
    (TV.Sched.next cfg fs pick).isSome = true :=
  TV.Sched.next_progress cfg fs pick hc hnone hne

-- non-vacuity
example : Inv (init 5) := inv_init 5
example : canEnd (final (init 1) [.take, .finish]) = false ∧ ends (run (init 1) [.take, .finish]) = 1 := ⟨rfl, rfl⟩

/-! ## the decision structure of the source, as regenerated on this run (xlate, `Gen/Shapes.lean`) -/

open TV.Gen.Shapes in
/-- every `if` condition of `nextChunkToSend`, `markChunkDone` and `trySendEnd`, in source order (enclosing conditions first):
the text `Model/SendFile` was transcribed from -/
theorem C17_source_shapes :
    sendfile_next_chunk = ["s.scheduleDone", "s.scheduleDone ; s.resendPending", "s.resendPending",
      "s.plan != nil && s.plan.bitmap != nil && s.plan.bitmap.Get(int(idx)) && idx < s.plan.forceSendFrom",
      "s.nextChunk >= s.totalChunks"] ∧
    sendfile_mark_done = ["s.inFlight > 0", "s.verifyPending || s.resendPending", "s.scheduleDone && s.inFlight == 0 && !s.endSent"] ∧
    sendfile_try_end = ["s.verifyPending || s.resendPending", "s.scheduleDone && s.inFlight == 0 && !s.endSent"] ∧
    -- `verifyBegin`: one locked region that declines after the end record; it is the only place that sets `verifyPending`, and the
    -- verification goroutine (`verdict`) is started only when it accepted
    sendfile_begin_verify = ["s.mu.Lock()", "defer s.mu.Unlock()", "if s.endSent { return false }", "s.verifyPending = true", "return true"] ∧
    send_begin_verify_call = ["totalChunks > 0 && len(info.Bitmap) > 0 ; verifyNeeded && state.beginVerify()"] ∧
    send_verify_pending_sets = ["false", "false"] ∧
    -- inside `applyResumeInfo`: verification is made pending (`verifyBegin`) BEFORE the plan is put in force (`applyPlan`) - with the
    -- plan first, the workers could skip to the end record while nothing is pending yet, and `beginVerify` would then decline
    send_apply_order = ["state.beginVerify()", "go func(vChunk", "opts.ResumeStatsFn(", "state.plan = plan"] := ⟨rfl, rfl, rfl, rfl, rfl, rfl, rfl⟩

end TV.C17
