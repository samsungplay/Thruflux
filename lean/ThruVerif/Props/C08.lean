import ThruVerif.Model.Auth
import ThruVerif.Model.AuthSym
import ThruVerif.Gen.Order
import ThruVerif.Gen.Consts
/-!
# C08 — Only holders of the join code on the same TLS session pass transport auth

Byte level (`TV.Auth`, for an arbitrary MAC function, of which HMAC-SHA256 is the executed instance):
* `C08_accept_iff`: an endpoint accepts 50 bytes iff they are exactly `version ‖ expected role ‖ n ‖ MAC(key, version ‖ role ‖ n)`
  for the 16 bytes `n` found at the nonce position - nothing else is ever accepted.
* `C08_complete`, `C08_pair_complete`: same code and same exporter output -> both ends accept.
* `C08_reflection`: a side's own proof sent back to it is rejected (role byte).
* `C08_truncated`: fewer than 50 bytes -> rejected.
* `C08_alter`: changing any single byte of an honest message is rejected, unless it is a nonce byte and the MAC of
  the changed nonce collides with the MAC of the original one.
* `C08_other_key`: a message made under another key (other join code, or other TLS session = other exporter
  output) is accepted only if the two MACs collide.
Symbolic level (`TV.AuthSym`, MAC = free constructor, i.e. no collisions and no forgery without the key):
* `accept_sound`: whatever an attacker derives from all honest traffic of all sessions, the exporter output of the sessions
  it terminates, other codes, nonces and bytes of its choice - if an honest party of session `e` accepts it for role `r`,
  an honest party of role `r` sent exactly that proof in session `e`. `relay_rejected`, `reflection_rejected`.
Order (`decide` over facts regenerated from the CFGs of the current source):
* `C08_order`: `authenticateTransport` dominates `SendManifestMultiStream` / `RecvManifestMultiStream` / `NewMultiConn`,
  and in the extra-connection loops the connection is handed on only after it.
-/
namespace TV.Auth

/-- the constants are the ones `xlate` reads off the source on every run -/
theorem consts_tied :
    version.toNat = TV.Gen.Consts.authVersion ∧ roleSender.toNat = TV.Gen.Consts.authRoleSender ∧
    roleReceiver.toNat = TV.Gen.Consts.authRoleReceive ∧ nonceSize = TV.Gen.Consts.authNonceSize ∧
    macSize = TV.Gen.Consts.authMacSize ∧ msgSize = TV.Gen.Consts.authMsgSize ∧
    msgSize = 1 + 1 + nonceSize + macSize := by decide

variable (mac : Mac)

/-- a message made under `key` is accepted under `key'` only if the two MACs coincide -/
theorem C08_other_key (key key' : Bytes) (role : UInt8) (n : Bytes) (hn : n.length = nonceSize) :
    checkBuf mac key' role (mkMsg mac key role n) = .accept ↔ proof mac key' role n = proof mac key role n := by
  have ht : (n ++ proof mac key role n).take nonceSize = n := List.take_left' hn
  have hd : (n ++ proof mac key role n).drop nonceSize = proof mac key role n := List.drop_left' hn
  simp [mkMsg, checkBuf, ht, hd, eq_comm]

theorem checkBuf_mkMsg (key : Bytes) (role : UInt8) (n : Bytes) (hn : n.length = nonceSize) :
    checkBuf mac key role (mkMsg mac key role n) = .accept :=
  (C08_other_key mac key key role n hn).2 rfl

theorem C08_accept_iff (key : Bytes) (role : UInt8) (buf : Bytes) (hlen : buf.length = msgSize) :
    checkBuf mac key role buf = .accept ↔ ∃ n, n.length = nonceSize ∧ buf = mkMsg mac key role n := by
  refine ⟨?_, fun ⟨n, hn, e⟩ => e ▸ checkBuf_mkMsg mac key role n hn⟩
  fun_cases checkBuf mac key role buf
  -- only the branch in which all three tests of `checkBuf` pass ends in `accept`
  case case3 v r rest hv hr hp =>
    intro _
    refine ⟨rest.take nonceSize, by simp [msgSize, nonceSize] at hlen ⊢; omega, ?_⟩
    obtain rfl := Decidable.not_not.mp hv
    obtain rfl := Decidable.not_not.mp hr
    rw [mkMsg, ← hp, List.append_assoc, List.take_append_drop]
    rfl
  all_goals nofun

theorem mkMsg_length (key : Bytes) (role : UInt8) (n : Bytes) (hn : n.length = nonceSize)
    (hm : ∀ k m, (mac k m).length = macSize) : (mkMsg mac key role n).length = msgSize := by
  simp [mkMsg, proof, hm, hn, nonceSize, macSize, msgSize]

theorem check_append (key : Bytes) (role : UInt8) {w rest : Bytes} (hw : w.length = msgSize) :
    check mac key role (w ++ rest) = checkBuf mac key role w := by
  rw [check, if_neg (by simp [hw]), ← hw, List.take_left]

/-- an honest message (followed by anything) is accepted by the peer that holds the same key -/
theorem C08_complete (key : Bytes) (role : UInt8) (n rest : Bytes) (hn : n.length = nonceSize)
    (hm : ∀ k m, (mac k m).length = macSize) :
    check mac key role (mkMsg mac key role n ++ rest) = .accept := by
  rw [check_append mac key role (mkMsg_length mac key role n hn hm)]
  exact checkBuf_mkMsg mac key role n hn

theorem C08_truncated (key : Bytes) (role : UInt8) (w : Bytes) (h : w.length < msgSize) :
    check mac key role w = .shortRead := by
  simp [check, h]

/-- reflection: the sender's own message offered as the reply (and the receiver's as a first message) is rejected -/
theorem C08_reflection (key : Bytes) (n : Bytes) :
    checkBuf mac key roleReceiver (mkMsg mac key roleSender n) = .badRole ∧
    checkBuf mac key roleSender (mkMsg mac key roleReceiver n) = .badRole := by
  constructor <;> simp [mkMsg, checkBuf, roleSender, roleReceiver, version]

theorem mkMsg_take (key : Bytes) (role : UInt8) {n : Bytes} (hn : n.length = nonceSize) :
    (mkMsg mac key role n).take (2 + nonceSize) = [version, role] ++ n :=
  List.take_left' (by simp [hn, nonceSize])

theorem mkMsg_drop (key : Bytes) (role : UInt8) {n : Bytes} (hn : n.length = nonceSize) :
    (mkMsg mac key role n).drop (2 + nonceSize) = proof mac key role n :=
  List.drop_left' (by simp [hn, nonceSize])

theorem mkMsg_inj_nonce {key key' : Bytes} {role : UInt8} {n n' : Bytes} (hn : n.length = nonceSize) (hn' : n'.length = nonceSize)
    (h : mkMsg mac key' role n' = mkMsg mac key role n) : n' = n ∧ proof mac key' role n' = proof mac key role n := by
  simp only [mkMsg, List.cons_append, List.nil_append, List.cons.injEq, true_and] at h
  exact List.append_inj h (by rw [hn, hn'])

/-- single-byte alteration of an honest message -/
theorem C08_alter (key : Bytes) (role : UInt8) (n : Bytes) (hn : n.length = nonceSize)
    (hm : ∀ k m, (mac k m).length = macSize) (i : Nat) (b : UInt8)
    (hi : i < msgSize) (hb : (mkMsg mac key role n)[i]? ≠ some b)
    (hacc : checkBuf mac key role ((mkMsg mac key role n).set i b) = .accept) :
    2 ≤ i ∧ i < 2 + nonceSize ∧ ∃ n', n' ≠ n ∧ n'.length = nonceSize ∧ proof mac key role n' = proof mac key role n := by
  have hl := mkMsg_length mac key role n hn hm
  -- what is accepted is the honest message for some nonce `n'`; not for `n`, whose message has no `b` at `i`
  obtain ⟨n', hn', he⟩ := (C08_accept_iff mac key role _ (by rw [List.length_set, hl])).1 hacc
  have hnn : n' ≠ n := by
    rintro rfl
    exact hb (by rw [← he, List.getElem?_set_self (hl ▸ hi)])
  -- the two nonces differ, so `i` lies in the nonce: before it, nonce and MAC would be unchanged (`(mkMsg ..).drop 2` is
  -- `n ++ proof ..` by computation), behind it version, role and nonce
  have h2 : 2 ≤ i := Nat.le_of_not_lt fun h => by
    have e := congrArg (List.drop 2) he
    rw [List.drop_set_of_lt h] at e
    exact hnn (List.append_inj (s₁ := n') (s₂ := n) e.symm (hn'.trans hn.symm)).1
  have h18 : i < 2 + nonceSize := Nat.lt_of_not_le fun h => by
    have e := congrArg (List.take (2 + nonceSize)) he
    rw [List.take_set_of_le h, mkMsg_take mac key role hn, mkMsg_take mac key role hn'] at e
    exact hnn (List.append_cancel_left e).symm
  -- and the MAC lies behind `i`
  have e := congrArg (List.drop (2 + nonceSize)) he
  rw [List.drop_set_of_lt h18, mkMsg_drop mac key role hn, mkMsg_drop mac key role hn'] at e
  exact ⟨h2, h18, n', hnn, hn', e.symm⟩

/-- both honest ends, same code, same TLS session: both accept -/
theorem C08_pair_complete (code ekm nS nR : Bytes) (hS : nS.length = nonceSize) (hR : nR.length = nonceSize)
    (hm : ∀ k m, (mac k m).length = macSize) :
    honestPair mac code ekm code ekm nS nR = (.accept, .accept) := by
  have h1 := C08_complete mac (deriveKey mac code ekm) roleSender nS [] hS hm
  have h2 := C08_complete mac (deriveKey mac code ekm) roleReceiver nR [] hR hm
  simp only [List.append_nil] at h1 h2
  simp [honestPair, receiverRun, senderRun, h1, h2]

/-- both honest ends with different keys (different code, or the two ends of different TLS sessions as with a
    relay in the middle): the receiver accepts only on a MAC collision, and then nobody accepts otherwise -/
theorem C08_pair_mismatch (codeS ekmS codeR ekmR nS nR : Bytes) (hS : nS.length = nonceSize)
    (hm : ∀ k m, (mac k m).length = macSize)
    (hcol : proof mac (deriveKey mac codeR ekmR) roleSender nS ≠ proof mac (deriveKey mac codeS ekmS) roleSender nS) :
    (honestPair mac codeS ekmS codeR ekmR nS nR).1 ≠ .accept ∧ (honestPair mac codeS ekmS codeR ekmR nS nR).2 ≠ .accept := by
  have hc : check mac (deriveKey mac codeR ekmR) roleSender (mkMsg mac (deriveKey mac codeS ekmS) roleSender nS) ≠ .accept := by
    rw [← List.append_nil (mkMsg _ _ _ _), check_append mac _ _ (mkMsg_length mac _ _ nS hS hm)]
    exact fun h => hcol ((C08_other_key mac _ _ roleSender nS hS).1 h)
  simp only [honestPair, receiverRun]
  revert hc
  generalize check mac _ roleSender _ = v
  intro hc
  cases v <;> simp_all

end TV.Auth

namespace TV.Sha256

theorem compress_size (h : Array UInt32) (blk : Array UInt8) : (compress h blk).size = 8 := by
  simp [compress]

/-- the state keeps its eight words through every block, and each word is written out as four bytes -/
theorem sha256_length (msg : List UInt8) : (sha256 msg).length = 32 := by
  have words : ∀ (f : Array UInt32 → Nat → Array UInt32), (∀ b a, (f b a).size = 8) → ∀ (l : List Nat) (h : Array UInt32),
      h.size = 8 → (l.foldl f h).size = 8 := by
    intro f hf l
    induction l with
    | nil => exact fun _ h => h
    | cons a l ih => exact fun h _ => ih _ (hf h a)
  have bytes : ∀ (f : UInt32 → List UInt8), (∀ a, (f a).length = 4) → ∀ (l : List UInt32) (out : List UInt8),
      (l.foldl (fun b a => b ++ f a) out).length = out.length + 4 * l.length := by
    intro f hf l
    induction l with
    | nil => simp
    | cons a l ih => intro out; simp only [List.foldl_cons, ih, List.length_append, List.length_cons, hf]; omega
  -- both `for` loops of `sha256` as folds
  simp only [sha256, Std.Legacy.Range.forIn_eq_forIn_range', List.forIn_pure_yield_eq_foldl, bind_pure_comp, map_pure, pure_bind,
    Id.run_pure]
  -- output length = 0 + 4 × number of words (`bytes`), and the state keeps 8 words (`words`)
  rw [bytes _ (fun _ => rfl), Array.length_toList (xs := List.foldl _ _ _), words _ (fun _ _ => compress_size _ _) _ _ rfl]
  rfl

end TV.Sha256

namespace TV.Auth

/-- the MAC the driver executes meets the one hypothesis the theorems above make about a MAC function -/
theorem hmacSha256_length (k m : Bytes) : (hmacSha256 k m).length = macSize := TV.Sha256.sha256_length _

/-- non-vacuity, with the executed instance -/
example : honestPair hmacSha256 [1,2,3] [9,9] [1,2,3] [9,9] (List.replicate 16 7) (List.replicate 16 8) = (.accept, .accept) :=
  C08_pair_complete hmacSha256 _ _ _ _ rfl rfl hmacSha256_length

end TV.Auth

namespace TV.AuthSym
open Tm

theorem secret_underivable {W K} (hK : Clean W K) : ¬ Der W K (code W.secret) := by
  intro h
  cases h with
  | parts hp => exact hK.1 hp
  | code hne => exact hne rfl

theorem key_underivable {W K} (hK : Clean W K) (e : Nat) : ¬ Der W K (hmac (code W.secret) (ekm e)) := by
  intro h
  cases h with
  | parts hp => exact hK.2 e hp
  | hmac hk _ => exact secret_underivable hK hk

/-- A MAC under an honest session key that the attacker can present was lifted from observed traffic. -/
theorem mac_from_traffic {W K} (hK : Clean W K) (e : Nat) (body : Tm)
    (h : Der W K (hmac (hmac (code W.secret) (ekm e)) body)) :
    Parts K (hmac (hmac (code W.secret) (ekm e)) body) := by
  cases h with
  | parts hp => exact hp
  | hmac hk _ => exact absurd hk (key_underivable hK e)

/-- components of a wire message, enumerated -/
theorem parts_wire {c : Nat} {sent : List HonestSend} {t : Tm} (hp : Parts (Know c sent) t) :
    ∃ h ∈ sent,
      t = wire c h ∨ t = byte 1 ∨
      t = pair (byte h.role) (pair (nonce h.n) (proof (key c h.e) h.role h.n)) ∨ t = byte h.role ∨
      t = pair (nonce h.n) (proof (key c h.e) h.role h.n) ∨ t = nonce h.n ∨
      t = proof (key c h.e) h.role h.n := by
  induction hp with
  | base hk =>
    obtain ⟨h, hm, rfl⟩ := hk
    exact ⟨h, hm, Or.inl rfl⟩
  | fst _ ih | snd _ ih =>
    -- a component of a term on the list is the next on the list (first component) or the next but one (second)
    obtain ⟨h, hm, hc⟩ := ih
    refine ⟨h, hm, ?_⟩
    rcases hc with e | e | e | e | e | e | e <;> simp [wire, msg, proof] at e <;> simp [e, wire, msg, proof]

theorem know_clean (W : World) (sent : List HonestSend) : Clean W (Know W.secret sent) := by
  refine ⟨fun hp => ?_, fun e hp => ?_⟩ <;>
  · obtain ⟨h, _, hc⟩ := parts_wire hp
    rcases hc with e' | e' | e' | e' | e' | e' | e' <;> simp [wire, msg, proof] at e'

/-- C08 soundness core: whatever the attacker can derive from all honest traffic (of any sessions), its own sessions'
    exporter secrets, other codes, fresh nonces and bytes — if an honest party in session `e` accepts it as coming from
    `expectRole`, then an honest party of that role in that same session sent exactly that proof. -/
theorem accept_sound (W : World) (sent : List HonestSend) (e expectRole : Nat) (m : Tm)
    (hd : Der W (Know W.secret sent) m) (ha : accepts W.secret e expectRole m) :
    ∃ h ∈ sent, h.e = e ∧ h.role = expectRole := by
  obtain ⟨n, rfl⟩ := ha
  -- a derivable pair has derivable components: it is a part of the traffic, or it was paired from them
  have snd : ∀ {a b}, Der W (Know W.secret sent) (pair a b) → Der W (Know W.secret sent) b := by
    intro a b h
    cases h with
    | parts hp => exact Der.parts (Parts.snd hp)
    | pair _ hb => exact hb
  -- so the MAC, the last component of `m`, is derivable
  obtain ⟨h, hm, hc⟩ := parts_wire (mac_from_traffic (know_clean W sent) e _ (snd (snd (snd hd))))
  refine ⟨h, hm, ?_⟩
  -- only the last alternative is an `hmac` term; there key and body agree, hence session and role
  rcases hc with e' | e' | e' | e' | e' | e' | e' <;> simp [wire, msg, proof, key] at e'
  obtain ⟨he, hr, _⟩ : e = h.e ∧ expectRole = h.role ∧ n = h.n := e'
  exact ⟨he.symm, hr.symm⟩

/-- reflection is rejected: a sender's own proof never satisfies the check the sender performs on the reply -/
theorem reflection_rejected (c e n : Nat) : ¬ accepts c e roleReceiver (msg roleSender n (proof (key c e) roleSender n)) := by
  intro ⟨n', h⟩
  simp [msg, roleSender, roleReceiver] at h

/-- relay between two TLS sessions: a proof made for session e₁ is not accepted in session e₂ ≠ e₁ -/
theorem relay_rejected (c e1 e2 role n : Nat) (hne : e1 ≠ e2) :
    ¬ accepts c e2 role (msg role n (proof (key c e1) role n)) := by
  intro ⟨n', h⟩
  simp [msg, proof, key] at h
  obtain ⟨_, he, _⟩ : n = n' ∧ e1 = e2 ∧ n = n' := h
  exact hne he

/-- completeness: the honest sender's message is accepted by the honest receiver of the same session and code,
    and it is derivable (trivially) from the traffic — so `accept_sound`'s hypotheses are satisfiable. -/
example (W : World) (e n : Nat) :
    let sent := [⟨e, roleSender, n⟩]
    Der W (Know W.secret sent) (wire W.secret ⟨e, roleSender, n⟩) ∧
    accepts W.secret e roleSender (wire W.secret ⟨e, roleSender, n⟩) := by
  refine ⟨Der.parts (Parts.base ⟨_, by simp, rfl⟩), ⟨n, rfl⟩⟩

end TV.AuthSym

namespace TV.C08
open TV.Gen.Order

/-- a fact is `(sites of the guard, sites of the guarded call, of them dominated)`; regenerated on every run -/
def dominated (f : Nat × Nat × Nat) : Bool := f.1 ≥ 1 && f.2.1 ≥ 1 && f.2.2 == f.2.1

theorem C08_order :
    dominated sender_auth_before_send ∧ dominated sender_auth_before_multiconn ∧
    dominated receiver_auth_before_multiconn := by decide

/-- stronger: the guarded sites are reachable only through the `err == nil` edge after `authenticateTransport`
    (or not at all: the failure branch ends in `os.Exit`) - on the primary connection and, in the extra-connection
    loops, for the `append` that keeps a connection. -/
theorem C08_order_ok :
    dominated sender_auth_ok_before_send ∧ dominated sender_auth_ok_before_extra ∧
    dominated receiver_auth_ok_before_recv ∧ dominated receiver_auth_ok_before_extra ∧
    dominated sender_extra_auth_ok_before_keep := by decide

/-- the receiver takes incoming connections only out of `acceptAuthenticated`, which hands a connection on only on the
    `err == nil` branch of `authenticateTransport`; in `runTransfer` every use of the transfer connection lies behind
    that hand-over (flag `authenticated`, set only in the select cases that received from such a channel) or behind the
    receiver's own successful `authenticateTransport` (its outgoing dial) -/
theorem C08_order_receiver_accept :
    dominated receiver_accept_auth_ok_before_deliver ∧
    dominated receiver_flag_only_from_authenticated_accept := by decide

end TV.C08
