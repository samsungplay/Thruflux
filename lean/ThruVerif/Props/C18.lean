import ThruVerif.Proofs.Codec
import ThruVerif.Gen.Layouts
import ThruVerif.Gen.Consts
/-!
# C18 — Control-protocol encoding round-trips and stays in frame

`TV.Codec` interprets layouts; the layouts used for the nine control records are tied to the source by the
`layout_*` obligations below: the token list xlate reads off each `write*` / `read*` body in
`controlproto.go` must be exactly the token list the model's layout denotes, and the dispatcher table of
`readControlMessage` must pair every tag with the reader of the same record.
-/
namespace TV.C18
open TV TV.Codec TV.Gen.Layouts

def maxPath : Nat := TV.Gen.Consts.maxRelPathLength

/-- tokens a `write*` body shows for a layout -/
def toksW : List Fld → List Tok
  | [] => []
  | .tag t :: fs => .tag t :: toksW fs
  | .uint w :: fs => .u w :: toksW fs
  | .lenBytes w _ :: fs => .u w :: .bytes :: toksW fs
  | .rep w ws :: fs => .u w :: .loop :: (ws.map Tok.u ++ .endloop :: toksW fs)

/-- tokens a `read*` body shows for a layout -/
def toksR : List Fld → List Tok
  | [] => []
  | .tag t :: fs => .tag t :: toksR fs
  | .uint w :: fs => .u w :: toksR fs
  | .lenBytes w (some _) :: fs => .u w :: .limit :: .bytes :: toksR fs
  | .lenBytes w none :: fs => .u w :: .bytes :: toksR fs
  | .rep w ws :: fs => .u w :: .ifzero :: .loop :: (ws.map Tok.u ++ .endloop :: toksR fs)

def wOf (k : Kind) : List Tok := .tag k.tag :: toksW (k.body maxPath)
def rOf (k : Kind) : List Tok := toksR (k.body maxPath)

/-- **layout obligations** (regenerated data vs model layouts) -/
theorem layout_fileBegin : writeFileBegin = .validate :: wOf .fileBegin ∧ readFileBegin = rOf .fileBegin := ⟨rfl, rfl⟩
theorem layout_credit : writeCredit = wOf .credit ∧ readCredit = rOf .credit := ⟨rfl, rfl⟩
theorem layout_creditBatch : writeCreditBatch = wOf .creditBatch ∧ readCreditBatch = rOf .creditBatch := ⟨rfl, rfl⟩
theorem layout_fileEnd : writeFileEnd = wOf .fileEnd ∧ readFileEnd = rOf .fileEnd := ⟨rfl, rfl⟩
theorem layout_fileDone : writeFileDone = wOf .fileDone ∧ readFileDone = rOf .fileDone := ⟨rfl, rfl⟩
theorem layout_fileResumeInfo : writeFileResumeInfo = wOf .fileResumeInfo ∧ readFileResumeInfo = rOf .fileResumeInfo := ⟨rfl, rfl⟩
theorem layout_resumeRequest : writeResumeRequest = wOf .resumeRequest ∧ readResumeRequest = rOf .resumeRequest := ⟨rfl, rfl⟩
theorem layout_dataStreams : writeDataStreams = wOf .dataStreams ∧ readDataStreams = rOf .dataStreams := ⟨rfl, rfl⟩
theorem layout_end : writeEnd = wOf .end_ := rfl
theorem layout_header : writeHeader = [.magic 4, .u 4, .bytes] ∧ readHeader = writeHeader := ⟨rfl, rfl⟩

/-- every case of `readControlMessage` calls the reader of the record whose writer emits that tag and
    returns that tag; the cases are exactly the nine record kinds -/
theorem dispatch_table :
    dispatch.all (fun r => r.1 == r.2.1 && r.1 == r.2.2) = true ∧
    dispatch.length = allKinds.length ∧
    (allKinds.map Kind.tag).all (fun t => (dispatch.map (·.1)).contains t) = true := by decide

theorem tags_distinct : (allKinds.map Kind.tag).Nodup := by decide

theorem tags_match_source :
    Kind.tag .fileBegin = Gen.Consts.controlTypeFileBegin ∧ Kind.tag .credit = Gen.Consts.controlTypeCredit ∧
    Kind.tag .fileEnd = Gen.Consts.controlTypeFileEnd ∧ Kind.tag .fileDone = Gen.Consts.controlTypeFileDone ∧
    Kind.tag .fileResumeInfo = Gen.Consts.controlTypeFileResumeInfo ∧ Kind.tag .resumeRequest = Gen.Consts.controlTypeResumeRequest ∧
    Kind.tag .creditBatch = Gen.Consts.controlTypeCreditBatch ∧ Kind.tag .dataStreams = Gen.Consts.controlTypeDataStreams ∧
    Kind.tag .end_ = Gen.Consts.controlTypeEnd := by decide

/-! ### Round trip -/

/-- Every record within the field limits decodes to itself and the decoder stops
    exactly where the encoder stopped. -/
theorem C18_roundtrip (r : Rec) (rest : Bytes) (h : Wf maxPath r) :
    decode maxPath (encode maxPath r ++ rest) = .ok (r, rest) :=
  decode_encode maxPath r rest h

/-- A concatenation of records decodes to the same sequence. -/
theorem C18_sequence (rs : List Rec) (h : ∀ r ∈ rs, Wf maxPath r) :
    decodeAll maxPath (rs.length + 1) (rs.flatMap (encode maxPath)) = .ok rs :=
  decodeAll_encode maxPath rs h _ (Nat.le_succ _)

/-- The manifest header round-trips for any JSON shorter than 2³² bytes. -/
theorem C18_header (magic json rest : Bytes) (h : json.length < 2 ^ 32) :
    decodeHeader magic (encodeHeader magic json ++ rest) = .ok (json, rest) := by
  simp only [decodeHeader, encodeHeader, List.append_assoc, takeN_append, ne_eq, not_true_eq_false, if_false,
    getU_putBE 4 _ _ (show json.length < 256 ^ 4 from h)]

/-- The 16-bit limit is exactly right: an error text of 2¹⁶ bytes does *not*
    round-trip (its length prefix wraps), so `Wf` is not stronger than needed. -/
theorem C18_limits_tight (e : Bytes) (he : e.length = 65536) :
    decode maxPath (encode maxPath (.fileDone 0 true e)) ≠ .ok (.fileDone 0 true e, []) := by
  have hw : putBE 2 65536 = putBE 2 0 := by decide  -- the 16-bit length prefix of 2^16 is that of 0
  have henc : encode maxPath (.fileDone 0 true e) = encode maxPath (.fileDone 0 true []) ++ e := by
    simp [encode, Rec.kind, Rec.vals, Kind.body, encL, encF, he, hw]
  rw [henc, C18_roundtrip (.fileDone 0 true []) _ (by simp [Wf])]
  -- the decoder returns (fileDone 0 true [], e): the text has become trailing input. Equality with
  -- (fileDone 0 true e, []) forces e = [], against he
  intro h
  cases h
  cases he

-- non-vacuity: concrete records at the field boundaries satisfy `Wf`
example : Wf maxPath (.fileBegin [97] (2 ^ 64 - 1) (2 ^ 32 - 1) 0 1 0 0 0 0) := by
  simp [Wf, maxPath, TV.Gen.Consts.maxRelPathLength]
example : Wf maxPath (.fileResumeInfo [] 0 0 [] (2 ^ 32 - 1) (2 ^ 64 - 1)) := by simp [Wf]
example : decode maxPath (encode maxPath (.fileDone 7 false [1, 2, 3]) ++ [9]) = .ok (.fileDone 7 false [1, 2, 3], [9]) := by
  rfl

end TV.C18
