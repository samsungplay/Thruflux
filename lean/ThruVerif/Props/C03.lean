import ThruVerif.Model.ProtoL
import ThruVerif.Model.Path
import ThruVerif.Model.Budget
import ThruVerif.Gen.Consts
import ThruVerif.Proofs.Step
import ThruVerif.Proofs.ProtoLM
import ThruVerif.Proofs.FileWait
import ThruVerif.Proofs.ProtoLMC
import ThruVerif.Proofs.Sched
import ThruVerif.Gen.Shapes
/-!
# C03 — Every transfer between healthy peers completes

* `C03_completes`: on the liveness abstraction `ProtoL` (streams accepted lazily - the code after the fix of
  the accept-all-streams-first hang), for every number of announced streams n ≥ 1 and every number of
  chunks including 0: no reachable non-final state is stuck, and every step strictly decreases a natural
  measure, so every maximal run is finite and ends with the sender having received FileDone.
* `C03_names`: every legal relative name passes `validateRelPath`.
* `C03_budget`: the stream budget arithmetic of `computeParallelBudget` + `NormalizeParams`.
-/
namespace TV.ProtoLFix
open TV.ProtoLM (FileSt)

theorem sum_set_succ (l : List Nat) (w : Nat) (h : w < l.length) :
    (l.set w (l[w]?.getD 0 + 1)).sum = l.sum + 1 := by
  have := sum_set l w (l[w]?.getD 0 + 1) h
  omega

theorem sum_set_pred (l : List Nat) (w : Nat) (h : l[w]?.getD 0 > 0) :
    (l.set w (l[w]?.getD 0 - 1)).sum + 1 = l.sum := by
  have := sum_set l w (l[w]?.getD 0 - 1)
    (Decidable.byContradiction fun hw => by simp [List.getElem?_eq_none (Nat.le_of_not_lt hw)] at h)
  omega

theorem exists_pos_of_sum_pos (l : List Nat) (h : 0 < l.sum) : ∃ w, w < l.length ∧ l[w]?.getD 0 > 0 := by
  induction l with
  | nil => simp at h
  | cons a as ih =>
    by_cases ha : a > 0
    · exact ⟨0, by simp, by simpa using ha⟩
    · have : 0 < as.sum := by simp at h; omega
      obtain ⟨w, hw, hp⟩ := ih this
      exact ⟨w + 1, by simpa using hw, by simpa using hp⟩

structure Inv (s : St) : Prop where
  len : s.buffered.length = s.n
  cons : s.remaining = s.toSend + s.buffered.sum
  vis : ∀ w, s.buffered[w]?.getD 0 > 0 → w < s.visible
  acc : s.accepted ≤ s.visible ∧ s.visible ≤ s.n
  done1 : s.doneSent = true → s.remaining = 0 ∧ s.endRecv = true
  done2 : s.remaining = 0 → s.endRecv = true → s.doneSent = true
  endo : s.endRecv = true → s.endSent = true
  ends : s.endSent = true → s.toSend = 0
  dr : s.doneRecv = true → s.doneSent = true
  npos : 0 < s.n

theorem getD_set' (l : List Nat) (i j v : Nat) :
    (l.set i v)[j]?.getD 0 = if i = j ∧ i < l.length then v else l[j]?.getD 0 := by
  simp only [List.getElem?_set]
  by_cases hij : i = j
  · subst hij; by_cases hl : i < l.length <;> simp [hl]
  · simp [hij]

theorem inv_init (n c : Nat) (hn : 0 < n) : Inv (init n c) := by
  refine { len := List.length_replicate, cons := ?_, vis := fun w hw => ?_, acc := ⟨Nat.le_refl 0, Nat.zero_le n⟩, npos := hn,
           done1 := nofun, done2 := nofun, endo := nofun, ends := nofun, dr := nofun }
  · show c = c + (List.replicate n 0).sum
    rw [List.sum_replicate_nat]
    rfl
  · simp only [init, List.getElem?_replicate] at hw
    split at hw <;> exact absurd hw (Nat.lt_irrefl 0)

def b2n (b : Bool) : Nat := if b then 0 else 1

/-- every step strictly decreases this measure, so every run is finite -/
def mu (s : St) : Nat :=
  2 * s.toSend + s.buffered.sum + (s.n - s.accepted) + b2n s.endSent + b2n s.endRecv + b2n s.doneRecv

/-- the one file of this abstraction as the file-level protocol of `Proofs/ProtoLM` sees it -/
def file (s : St) : FileSt := ⟨s.toSend, s.remaining, s.buffered.sum, s.endSent, s.endRecv, s.doneSent, s.doneRecv⟩

theorem Inv.file {s : St} (hi : Inv s) : (file s).Ok := ⟨hi.cons, hi.done1, hi.done2, hi.endo, hi.ends, hi.dr⟩

theorem mu_file (s : St) : mu s = (file s).weight + (s.n - s.accepted) := by
  have e (b : Bool) : b2n b = ProtoLM.b2n (!b) := by cases b <;> rfl
  simp only [mu, e, FileSt.weight, file]
  omega

/-- a step that is a step of the file keeps the invariant and lowers the measure by one, given the stream clauses of `Inv s'` -/
theorem lift {s s' : St} (h : (file s).Next (file s')) (len : s'.buffered.length = s'.n) (vis : ∀ w, s'.buffered[w]?.getD 0 > 0 → w < s'.visible)
    (acc : s'.accepted ≤ s'.visible ∧ s'.visible ≤ s'.n) (npos : 0 < s'.n) (ha : s'.n - s'.accepted = s.n - s.accepted) :
    Inv s' ∧ mu s' + 1 = mu s :=
  ⟨{ len, vis, acc, npos, cons := h.ok.cons, done1 := h.ok.done1, done2 := h.ok.done2, endo := h.ok.endo, ends := h.ok.ends,
     dr := h.ok.dr }, by rw [mu_file, mu_file, ha, ← h.dec, Nat.add_right_comm]⟩

theorem fin_eq (s : St) : fin s = { s with doneSent := (file s).fin.doneSent } :=
  (apply_ite (fun d => ({ s with doneSent := d } : St)) _ _ _).symm

/-- a property of the positions with a positive entry survives `set w x` if it holds at `w` (the list twin of `ProtoLM.bufSet_pos`) -/
theorem pos_set {l : List Nat} {P : Nat → Prop} (h : ∀ v, l[v]?.getD 0 > 0 → P v) {w x : Nat} (hw : P w) {v : Nat}
    (hv : (l.set w x)[v]?.getD 0 > 0) : P v := by
  rw [getD_set'] at hv
  split at hv
  next hwv => exact hwv.1 ▸ hw
  next => exact h v hv

theorem step_spec {s s' : St} {a : Step} (hi : Inv s) (h : step s a = some s') : Inv s' ∧ mu s' + 1 = mu s := by
  cases a with
  | dispatch w =>
    obtain ⟨⟨ht, hw⟩, rfl⟩ := Option.ite_some_none_eq_some.mp h
    have hvis (v : Nat) : (s.buffered.set w (s.buffered[w]?.getD 0 + 1))[v]?.getD 0 > 0 → v < max s.visible (w + 1) :=
      pos_set (P := (· < max s.visible (w + 1))) (h := fun v₁ h₁ => Nat.lt_of_lt_of_le (hi.vis v₁ h₁) (Nat.le_max_left ..))
        (hw := Nat.le_max_right ..)
    exact lift (hi.file.dispatch ht (sum_set_succ _ _ (hi.len ▸ hw))) (len := (List.length_set ..).trans hi.len) (vis := hvis)
      (acc := ⟨Nat.le_trans hi.acc.1 (Nat.le_max_left ..), Nat.max_le.mpr ⟨hi.acc.2, hw⟩⟩) hi.npos (ha := rfl)
  | sendEnd =>
    obtain ⟨⟨ht, he⟩, rfl⟩ := Option.ite_some_none_eq_some.mp h
    exact lift (hi.file.sendEnd ht he) hi.len hi.vis hi.acc hi.npos (ha := rfl)
  | accept =>
    obtain ⟨ha, rfl⟩ := Option.ite_some_none_eq_some.mp h
    refine ⟨{ hi with acc := ⟨ha, hi.acc.2⟩ }, ?_⟩
    rw [mu_file, mu_file]
    show (file s).weight + (s.n - (s.accepted + 1)) + 1 = _
    rw [Nat.add_assoc, ProtoLM.sub_succ_add_one (Nat.lt_of_lt_of_le ha hi.acc.2)]
  | readFrame w =>
    obtain ⟨⟨hw, hb⟩, rfl⟩ := Option.ite_some_none_eq_some.mp h
    have hf := hi.file.read (sum_set_pred s.buffered w hb)
    rw [fin_eq]
    exact lift hf (len := (List.length_set ..).trans hi.len) (vis := fun _ => pos_set hi.vis (hw := hi.vis w hb)) hi.acc hi.npos (ha := rfl)
  | recvEnd =>
    obtain ⟨⟨he, hr⟩, rfl⟩ := Option.ite_some_none_eq_some.mp h
    have hf := hi.file.recvEnd he hr
    rw [fin_eq]
    exact lift hf hi.len hi.vis hi.acc hi.npos (ha := rfl)
  | recvDone =>
    obtain ⟨⟨hd, hr⟩, rfl⟩ := Option.ite_some_none_eq_some.mp h
    -- the sender closes its streams: all of them become visible
    exact lift (hi.file.recvDone hd hr) hi.len (vis := fun v h => Nat.lt_of_lt_of_le (hi.vis v h) hi.acc.2)
      (acc := ⟨Nat.le_trans hi.acc.1 hi.acc.2, Nat.le_refl _⟩) hi.npos (ha := rfl)

theorem inv_step {s s' : St} {a : Step} (hi : Inv s) (h : step s a = some s') : Inv s' := (step_spec hi h).1

theorem mu_decreases {s s' : St} {a : Step} (hi : Inv s) (h : step s a = some s') : mu s' < mu s :=
  Nat.lt_of_succ_le (Nat.le_of_eq (step_spec hi h).2)

/-- C03 progress on the lazily-accepting design: no reachable non-final state is stuck. -/
theorem progress {s : St} (hi : Inv s) (hnf : ¬ final s) : ∃ a, (step s a).isSome = true := by
  rcases hi.file.enabled with h | h | h | h | h
  · exact ⟨.dispatch 0, Option.isSome_ite.mpr ⟨h, hi.npos⟩⟩
  · exact ⟨.sendEnd, Option.isSome_ite.mpr h⟩
  · exact ⟨.recvEnd, Option.isSome_ite.mpr h⟩
  · -- a frame in flight sits on a visible stream: it can be read, after accepting streams up to its own if need be
    obtain ⟨w, _, hw⟩ := exists_pos_of_sum_pos _ h
    have := hi.vis w hw
    by_cases h5 : w < s.accepted
    · exact ⟨.readFrame w, Option.isSome_ite.mpr ⟨h5, hw⟩⟩
    · exact ⟨.accept, Option.isSome_ite.mpr (show s.accepted < s.visible by omega)⟩
  · exact ⟨.recvDone, Option.isSome_ite.mpr ⟨h, Bool.eq_false_iff.mpr hnf⟩⟩

theorem inv_reachable {n c : Nat} (hn : 0 < n) {s : St} (h : Reachable n c s) : Inv s := by
  induction h with
  | init => exact inv_init n c hn
  | step _ hs ih => exact inv_step ih hs

/-- C03 on the abstraction, for every number of streams n ≥ 1 and every number of chunks (including 0):
    no reachable state is stuck short of completion, and every step consumes the measure — every run terminates in `final`. -/
theorem completes {n c : Nat} (hn : 0 < n) {s : St} (h : Reachable n c s) :
    (¬ final s → ∃ a, (step s a).isSome = true) ∧ (∀ a s', step s a = some s' → mu s' < mu s) :=
  ⟨progress (inv_reachable hn h), fun _ _ hs => mu_decreases (inv_reachable hn h) hs⟩

/-- **C03_completes** (headline). -/
theorem C03_completes {n c : Nat} (hn : 0 < n) {s : St} (h : Reachable n c s) :
    (¬ final s → ∃ a, (step s a).isSome = true) ∧ (∀ a s', step s a = some s' → mu s' < mu s) :=
  completes hn h

/-- the state the unfixed receiver hung in (one 1-chunk file announced on 4 streams) is not stuck any more:
    the control record is handled without the three silent streams -/
example : ∃ s, step (init 4 1) (.dispatch 0) = some s ∧ (step s .accept).isSome = true := by
  refine ⟨_, rfl, ?_⟩; decide

end TV.ProtoLFix

namespace TV.ProtoLM

/-! ## the whole manifest: `k` files over `n` data streams (any chunk counts, any `n ≥ 1`) -/

/-- In every reachable state of the manifest-level abstraction that is not final (the
receiver has not yet seen `End`), some step is enabled; and every step strictly decreases `measure`. Hence every run
ends, after at most `measure (init …)` steps, with `End` received - which happens only after every file was confirmed. -/
theorem C03_manifest_completes {k n : Nat} {chunks : Nat → Nat} (hn : 0 < n) {s : St} (h : Reachable k n chunks s) :
    (s.endAllRecv = false → ∃ a s', step s a = some s') ∧
    (∀ a s', step s a = some s' → measure s' < measure s) ∧
    (s.endAllRecv = true → ∀ f, f < s.k → s.doneRecv f = true ∧ s.remaining f = 0) := by
  have hi := reachable_inv hn h
  exact ⟨progress hi, fun _ _ hs => step_measure hi hs, hi.files.final⟩

def run (s : St) : List Step → Option St
  | [] => some s
  | a :: as => match step s a with | some s' => run s' as | none => none

/-- a run can never be longer than the measure of the state it starts from -/
theorem run_length_le {k n : Nat} {chunks : Nat → Nat} (hn : 0 < n) {s s' : St} (h : Reachable k n chunks s)
    (as : List Step) (hr : run s as = some s') : as.length + measure s' ≤ measure s :=
  (run_length_le_of (nil := fun _ => rfl) (cons := fun s a as => by rw [run]; cases step s a <;> rfl)
    (hstep := fun _ _ _ hi h => ⟨step_inv hi h, step_measure hi h⟩) as (reachable_inv hn h) hr).2

-- non-vacuity: two files (1 and 2 chunks) over two streams; the receiver accepts the streams while frames are already arriving
example : ((run (init 2 2 (fun f => f + 1))
    [.dispatch 1 1, .dispatch 0 0, .accept, .readFrame 0 0, .dispatch 1 0, .sendEnd 0, .sendEnd 1, .recvEnd 0, .recvDone 0,
     .accept, .readFrame 1 1, .readFrame 0 1, .recvEnd 1, .recvDone 1, .sendEndAll, .recvEndAll]).map (·.endAllRecv)) = some true := by
  decide
-- a frame on a stream that is not yet accepted cannot be read
example : ((run (init 2 2 (fun f => f + 1)) [.dispatch 1 1, .readFrame 1 1]).map (·.endAllRecv)) = none := by decide

end TV.ProtoLM

namespace TV.Budget

theorem normalize_bounds (t : Nat) : 1 ≤ normalizeStreams t ∧ normalizeStreams t ≤ 8 := by
  fun_cases normalizeStreams t <;> omega

theorem raise_ge (c t : Nat) (h : c > 1) : c ≤ raiseToConns c t := by
  fun_cases raiseToConns c t <;> omega

theorem capToFiles_striping (files t : Nat) : capToFiles true files t = t := by simp [capToFiles]

theorem capPerConn_ge (files c t : Nat) (hc : c > 1) (ht : c ≤ t) : c ≤ capPerConn true files c t := by
  unfold capPerConn
  split
  · rw [capToFiles_striping, if_neg (show ¬ c * 4 < 2 by omega)]
    split <;> omega
  · exact ht

end TV.Budget

namespace TV.C03
open TV TV.Path

/-- a legal relative name: non-empty, at most `maxLen` bytes, not absolute, no `..` element -/
def LegalRel (maxLen : Nat) (p : Bytes) : Prop :=
  p ≠ [] ∧ p.length ≤ maxLen ∧ isAbs p = false ∧ hasParentSeg p = false

/-- `validateRelPath` accepts exactly the legal relative names (so names such as `a..b`,
    `dir/file..txt`, names with spaces, backslashes or non-UTF-8 bytes are all transferable). -/
theorem C03_names (maxLen : Nat) (p : Bytes) : validateRelPath maxLen p = none ↔ LegalRel maxLen p := by
  unfold validateRelPath LegalRel
  by_cases h1 : p.length > maxLen
  · simp [h1]; omega
  by_cases h2 : hasParentSeg p = true
  · simp [h1, h2]
  by_cases h3 : isAbs p = true
  · simp [h1, h3]
  by_cases h4 : p = []
  · simp [h4]
  · simp [h1, h2, h3, h4]; omega

example : LegalRel 1024 [97, 46, 46, 98] := ⟨by decide, by decide, by decide, by decide⟩   -- "a..b"

open TV.Budget in
/-- For every file count, requested stream count and connection count the sender announces
    between 1 and 8 data streams after normalisation (so the count fits the 16-bit DataStreams field), and
    with several connections at least one stream per connection before normalisation. -/
theorem C03_budget (files req conns : Nat) :
    1 ≤ normalizeStreams (computeBudget files req conns (decide (conns > 1))).1 ∧
    normalizeStreams (computeBudget files req conns (decide (conns > 1))).1 ≤ 8 ∧
    normalizeStreams (computeBudget files req conns (decide (conns > 1))).1 < 2 ^ 16 ∧
    (conns > 1 → conns ≤ (computeBudget files req conns (decide (conns > 1))).1) := by
  have hb := normalize_bounds (computeBudget files req conns (decide (conns > 1))).1
  refine ⟨hb.1, hb.2, by omega, fun h1 => ?_⟩
  have hc : atLeastOne conns = conns := if_neg (by omega)
  simp only [computeBudget, hc, h1, decide_true, capToFiles_striping]
  exact capPerConn_ge files conns _ h1 (raise_ge conns _ h1)

end TV.C03

namespace TV.ProtoLMC

/-! ## the whole manifest over several connections: `k` files, `n ≥ 1` data streams spread round-robin over `c ≥ 1` connections -/

/-- In every reachable state of the multi-connection abstraction that is not final some step
is enabled, every step strictly decreases `measure`, and `End` is received only after every file was confirmed with nothing left
to receive - for any number of connections, streams, files and chunks, any number of additional chunks per file that travel
although the receiver does not wait for them (resume: marked chunks at or above `forceSendFrom`, the verification re-send; they may
arrive after their file was finalised and are then drained), and any interleaving of the per-connection stream visibility with the
receiver's accepts. -/
theorem C03_manifest_completes_multiconn {k n c : Nat} {chunks extra : Nat → Nat} (hn : 0 < n) (hc : 0 < c) {s : St}
    (h : Reachable k n c chunks extra s) :
    (s.endAllRecv = false → ∃ a s', step s a = some s') ∧
    (∀ a s', step s a = some s' → measure s' < measure s) ∧
    (s.endAllRecv = true → ∀ f, f < s.k → s.doneRecv f = true ∧ s.remaining f = 0) := by
  have hi := reachable_inv hn hc h
  exact ⟨progress hi, fun _ _ hs => step_measure hi hs, hi.files.final⟩

def run (s : St) : List Step → Option St
  | [] => some s
  | a :: as => match step s a with | some s' => run s' as | none => none

/-- a run can never be longer than the measure of the state it starts from -/
theorem run_length_le_multiconn {k n c : Nat} {chunks extra : Nat → Nat} (hn : 0 < n) (hc : 0 < c) {s s' : St} (h : Reachable k n c chunks extra s)
    (as : List Step) (hr : run s as = some s') : as.length + measure s' ≤ measure s :=
  (run_length_le_of (nil := fun _ => rfl) (cons := fun s a as => by rw [run]; cases step s a <;> rfl)
    (hstep := fun _ _ _ hi h => ⟨step_inv hi h, step_measure hi h⟩) as (reachable_inv hn hc h) hr).2

/-- a frame is never in flight on a stream the sender does not have, and the receiver never takes more streams from a connection
than the sender opened on it -/
theorem C03_multiconn_streams_bounded {k n c : Nat} {chunks extra : Nat → Nat} (hn : 0 < n) (hc : 0 < c) {s : St}
    (h : Reachable k n c chunks extra s) (j : Nat) (hj : j < s.c) : s.accepted j ≤ cnt s.n s.c j := by
  have := (reachable_inv hn hc h).acc j hj
  omega

-- non-vacuity: two files (1 and 2 chunks), three data streams over two connections (streams 1 and 3 on connection 1, stream 2
-- next to the control stream on connection 0); a frame on stream 3 reveals stream 1 too
example : ((run (init 2 3 2 (fun f => f + 1) (fun _ => 0))
    [.dispatch 1 3, .dispatch 0 2, .accept 1, .accept 0, .readFrame 2 0, .dispatch 1 1, .sendEnd 0, .sendEnd 1, .recvEnd 0, .recvDone 0,
     .accept 1, .readFrame 3 1, .readFrame 1 1, .recvEnd 1, .recvDone 1, .sendEndAll, .recvEndAll]).map (·.endAllRecv)) = some true := by
  decide
-- a frame on stream 3 (second stream of connection 1) cannot be read after a single accept on that connection
example : ((run (init 2 3 2 (fun f => f + 1) (fun _ => 0)) [.dispatch 1 3, .accept 1, .readFrame 3 1]).map (·.endAllRecv)) = none := by decide
-- and nothing is revealed on connection 0 beyond the control stream by traffic on connection 1
example : ((run (init 2 3 2 (fun f => f + 1) (fun _ => 0)) [.dispatch 1 3, .accept 0]).map (·.endAllRecv)) = none := by decide

open TV.Gen.Shapes in
/-- the source `Model/ProtoLMC` was transcribed from: `multiConn.OpenStream` places streams round-robin over the connections in the
order they are opened; the sender opens the control stream, then the data streams; the first `AcceptStream` takes the control
stream from connection 0 (compare-and-swap on `control`), later ones take what the per-connection accept loops deliver -/
theorem C03_source_multiconn :
    multiconn_open_rr = ["int(atomic.AddUint32(&m.nextIdx, 1)-1) % len(m.conns)"] ∧
    send_open_order = ["controlStream, err := conn.OpenStream(ctx)", "stream, err := conn.OpenStream(ctx)"] ∧
    multiconn_accept_ifs = ["atomic.CompareAndSwapUint32(&m.control, 0, 1)", "atomic.CompareAndSwapUint32(&m.control, 0, 1) ; err != nil",
      "atomic.CompareAndSwapUint32(&m.control, 0, 1) ; err != nil", "res.err != nil", "err != nil"] ∧
    multiconn_accept_control = ["ctx"] ∧ multiconn_loop_accept = ["context.Background()"] ∧ multiconn_loops = ["idx, conn"] := ⟨rfl, rfl, rfl, rfl, rfl, rfl⟩

-- resume: file 0 has one chunk the receiver waits for and two it already has; one of those arrives only after the file was finalised
example : ((run (init 1 2 1 (fun _ => 1) (fun _ => 2))
    [.dispatchU 0 2, .dispatch 0 1, .dispatchU 0 1, .accept 0, .accept 0, .readFrame 1 0, .readFrameU 1 0, .sendEnd 0, .recvEnd 0, .recvDone 0,
     .readFrameU 2 0, .sendEndAll, .recvEndAll]).map (fun s => (s.endAllRecv, s.doneSent 0))) = some (true, true) := by
  decide
-- FileEnd is not sent while such a chunk is still to be handed out
example : ((run (init 1 2 1 (fun _ => 1) (fun _ => 1)) [.dispatch 0 1, .sendEnd 0]).map (·.endAllRecv)) = none := by decide

end TV.ProtoLMC

namespace TV.FileWait

/-! ### The FileBegin wake-up between data readers and the control loop (`Model/FileWait`)

A chunk frame may reach the receiver before the `FileBegin` of its file was handled (they travel on different streams). For any
number of data readers and every interleaving of their critical sections with `handleFileBegin`'s: -/

/-- no schedule is longer than `4 n + 2` steps, and a schedule that cannot be extended has every reader proceeding with the
file state: no reader waits for a wake-up that was given before it registered -/
theorem C03_filebegin_wakeup (n : Nat) (as : List Step) (s : St) (h : run true (init n) as = some s) :
    as.length ≤ 4 * n + 2 ∧ ((∀ a, step true s a = none) → done s) := by
  obtain ⟨hI, hm⟩ := run_spec (inv_init n) h
  refine ⟨by rw [measure_init] at hm; omega, fun hstuck => Decidable.byContradiction fun hd => ?_⟩
  obtain ⟨a, s', h'⟩ := progress hI hd
  rw [hstuck a] at h'
  cases h'

/-- as long as a reader has not proceeded (or FileBegin is not handled) some step is enabled, and every step lowers a measure -/
theorem C03_filebegin_wakeup_progress (n : Nat) (as : List Step) (s : St) (h : run true (init n) as = some s) (hd : ¬ done s) :
    ∃ a s', step true s a = some s' ∧ measure s' < measure s := by
  obtain ⟨a, s', h'⟩ := progress (inv_run (inv_init n) h) hd
  exact ⟨a, s', h', measure_step h'⟩

/-- a blocked reader has been woken once `handleFileBegin` has signalled -/
theorem C03_blocked_reader_woken (n : Nat) (as : List Step) (s : St) (h : run true (init n) as = some s) (i : Nat)
    (hb : s.pcs[i]? = some .blocked) (hs : s.hpc = .signalled) : i ∈ s.closed :=
  (inv_run (inv_init n) h).closed_of_blocked hs hb

/-- premises satisfiable: two readers, one overtaken by FileBegin between its look-up and its registration, one parked early -/
example : ∃ s, run true (init 2) [.lookup 0, .lookup 1, .register 1, .recheck 1, .store, .signal, .register 0, .recheck 0, .wake 1] = some s ∧
    done s := by
  refine ⟨_, rfl, ?_⟩
  decide

/-- the code before fix 39667d3 (no predicate after registering): the schedule look-up, store, signal, register leaves the reader
blocked for good - replayed on the real code with the hook points `recv.file_begin.enter` and `recv.reader.before_wait` -/
theorem C03_filebegin_wakeup_refuted_before_fix :
    ∃ s, run false (init 1) [.lookup 0, .store, .signal, .register 0] = some s ∧ (∀ a, step false s a = none) ∧ ¬ done s := by
  refine ⟨{ pcs := [.blocked], hpc := .signalled, waiters := [0], closed := [] }, by decide, ?_, by decide⟩
  intro a
  cases a with
  | lookup i | register i | recheck i | wake i => rcases i with _ | i <;> simp [step]
  | store | signal => simp [step]

open TV.Gen.Shapes in
/-- the source the model's steps were transcribed from: `wait` registers its channel, then evaluates the predicate, then blocks;
`signal` takes the channels out and closes every one of them; the reader's predicate is the look-up of the state under `stateMu`;
`handleFileBegin` stores the state before it signals, the reader looks up before its wait -/
theorem C03_source_filewait :
    filewait_wait = ["ch := make(chan struct{})", "r.mu.Lock()", "r.waiters[id] = append(r.waiters[id], ch)", "r.mu.Unlock()",
      "if ready != nil && ready() { return true }", "select { case <-ctx.Done(): return false case <-ch: return true }"] ∧
    filewait_signal = ["r.mu.Lock()", "chans := r.waiters[id]", "delete(r.waiters, id)", "r.mu.Unlock()", "for _, ch := range chans { close(ch) }"] ∧
    filewait_call_args = ["recvCtx, fileKey, registered"] ∧
    filewait_ready_pred = ["func() bool {\n\tstateMu.Lock()\n\tdefer stateMu.Unlock()\n\treturn stateByKey[fileKey] != nil\n}"] ∧
    filewait_signal_args = ["key"] ∧
    filewait_order = ["stateByKey[key] = state", "fileReady.signal(key)", "state := stateByKey[fileKey]",
      "verifhook.Point(\"recv.reader.before_wait\", fileKey)"] := ⟨rfl, rfl, rfl, rfl, rfl, rfl⟩

end TV.FileWait

namespace TV.Sched

/-! ### the file scheduler never starves a pending file (`Model/Sched`, `HybridScheduler.Next`) -/

/-- `Next` declines only when no medium or large file is pending and either no small file is pending or every small slot is busy -/
theorem C03_scheduler_declines_only_when (cfg : Cfg) (fs : List F) (pick : Nat) (h : next cfg fs pick = none) :
    pendingWeighted cfg fs = [] ∧ (pendingSmall cfg fs = [] ∨ activeSmall cfg fs ≥ cfg.smallSlots) :=
  next_none h

/-- While a file is pending and a small slot is free, `Next` hands out a file: whatever the
sizes, the order of additions and removals, and however much time has passed (time does not enter: a pending file has never been
scheduled, and aging looks only at files that have) -/
theorem C03_scheduler_no_starvation (cfg : Cfg) (fs : List F) (pick : Nat) (f : F) (hf : f ∈ fs) (hp : f.started = false)
    (hfree : activeSmall cfg fs < cfg.smallSlots) : (next cfg fs pick).isSome = true :=
  next_isSome pick hf hp hfree

open TV.Gen.Shapes in
/-- aging (`effectiveClass`) applies only to a file that has been scheduled before (`LastScheduledAt` set), and promotes large to
medium, medium to small - a file never drops out of every class; pending files are the ones with `StartedAt` zero -/
theorem C03_source_sched_aging :
    sched_effective_class = ["class := s.classForRemaining(s.remainingForMeta(meta))",
      "if !meta.LastScheduledAt.IsZero() && now.Sub(meta.LastScheduledAt) > s.cfg.AgingAfter { switch class { case classLarge: return classMedium case classMedium: return classSmall } }",
      "return class"] ∧
    sched_pending_small_ifs = ["!meta.StartedAt.IsZero()", "s.effectiveClass(meta, now) == class"] ∧
    sched_pending_weighted_ifs = ["!meta.StartedAt.IsZero()", "eff == classMedium || eff == classLarge"] := ⟨rfl, rfl, rfl⟩

end TV.Sched

namespace TV.Mailbox

/-- One waiter and one delivery for an id, in either order: the waiter receives the message
(`FileDone`, `FileResumeInfo` and accepted data streams reach the goroutine that waits for them whichever comes first) -/
theorem C03_mailbox_no_lost_delivery (m : Nat) :
    (run init [.wait, .deliver m]).got = some m ∧ (run init [.deliver m, .wait]).got = some m := by
  constructor <;> rfl

open TV.Gen.Shapes in
/-- look-up-or-register and hand-over-or-leave are single critical sections in all three registries -/
theorem C03_source_mailboxes :
    mailbox_done_wait = ["r.mu.Lock()", "if msg, ok := r.pending[id]; ok { delete(r.pending, id) r.mu.Unlock() return msg, nil }",
      "ch := make(chan FileDone, 1)", "r.waiters[id] = ch", "r.mu.Unlock()"] ∧
    mailbox_done_deliver = ["r.mu.Lock()", "defer r.mu.Unlock()",
      "if ch, ok := r.waiters[msg.StreamID]; ok { delete(r.waiters, msg.StreamID) ch <- msg close(ch) return }", "r.pending[msg.StreamID] = msg"] ∧
    mailbox_resume_wait = ["r.mu.Lock()", "if msg, ok := r.pending[id]; ok { delete(r.pending, id) r.mu.Unlock() return msg, nil }",
      "ch := make(chan FileResumeInfo, 1)", "r.waiters[id] = ch", "r.mu.Unlock()"] ∧
    mailbox_resume_deliver = ["r.mu.Lock()", "defer r.mu.Unlock()",
      "if ch, ok := r.waiters[msg.StreamID]; ok { delete(r.waiters, msg.StreamID) ch <- msg close(ch) return }", "r.pending[msg.StreamID] = msg"] ∧
    mailbox_stream_wait = ["r.mu.Lock()", "if s, ok := r.streams[id]; ok { delete(r.streams, id) r.mu.Unlock() return s, nil }",
      "ch := make(chan Stream, 1)", "r.waiters[id] = append(r.waiters[id], ch)", "r.mu.Unlock()"] := ⟨rfl, rfl, rfl, rfl, rfl⟩

end TV.Mailbox
