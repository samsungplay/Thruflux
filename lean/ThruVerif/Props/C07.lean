import ThruVerif.Proofs.Path
import ThruVerif.Gen.Consts
import ThruVerif.Gen.Order
/-!
# C07 — The receiver never touches anything outside its output directory

Confinement is lexical (`Within` = element-wise prefix of cleaned paths) and is proved for the path
expressions the receiver actually builds: `Join(Join(out, root), rel)` for directories and files and
`Join(Join(out, root), sidecarDir, id + suffix)` for resume metadata — for arbitrary byte strings in
root / rel_path / id that pass the validation the receiver applies before creating anything.
-/
namespace TV.C07
open TV TV.Path

theorem noDotDot_nil : NoDotDot (segs []) := by
  unfold NoDotDot; decide

theorem within_under (out root rel : Bytes) (ho : out ≠ []) (hr : NoDotDot (segs root)) (hp : NoDotDot (segs rel)) :
    Within (stack out) (stack (under out root rel)) :=
  within_trans (within_join out root ho hr) (within_join (out ++ slash :: root) rel (by simp) hp)

/-- For an output directory `out ≠ ""`, a root that is empty or validated and a validated
    relative path, the computed path is lexically inside `out`. -/
theorem C07_under (maxPath : Nat) (out root rel : Bytes) (ho : out ≠ [])
    (hr : hasParentSeg root = false) (hp : validateRelPath maxPath rel = none) :
    Within (stack out) (stack (under out root rel)) :=
  within_under out root rel ho (noParent_noDotDot root hr) (validate_noDotDot maxPath rel hp)

/-- a name without `/` plus the sidecar suffix is a single path element and not `..` -/
theorem name_noDotDot (id suffix : Bytes) (hnos : id.any isSlash = false)
    (hs : suffix.any isSlash = false) (hlen : 3 ≤ suffix.length) : NoDotDot (segs (id ++ suffix)) := by
  rw [segs, splitOn_noSep (by rw [List.any_append, hnos, hs]; rfl)]
  rintro s hm rfl
  -- the one element has at least the three bytes of the suffix, `..` has two
  have : (id ++ suffix).length = 2 := congrArg List.length (List.mem_singleton.1 hm).symm
  rw [List.length_append] at this
  omega

theorem validFilename_noSlash (maxName : Nat) (id : Bytes) (hid : validateFilename maxName id = none) :
    id.any isSlash = false := by
  rw [List.any_eq_false]
  intro b hb hsl
  -- a `/` in `id` makes the second test of `validateFilename` fire
  have : id.any isSep2 = true := List.any_eq_true.2 ⟨b, hb, by simp_all [isSep2, isSlash]⟩
  simp [validateFilename, List.ne_nil_of_mem hb, this] at hid

/-- a validated id plus the sidecar suffix is a single path element and not `..` -/
theorem sidecarName_noDotDot (maxName : Nat) (id suffix : Bytes) (hid : validateFilename maxName id = none)
    (hs : suffix.any isSlash = false) (hlen : 3 ≤ suffix.length) : NoDotDot (segs (id ++ suffix)) :=
  name_noDotDot id suffix (validFilename_noSlash maxName id hid) hs hlen

theorem hexDigit_noSlash (n : Nat) (h : n < 16) : isSlash (hexDigit n) = false := by
  have : ∀ k, k < 16 → isSlash (hexDigit k) = false := by decide
  exact this n h

/-- the fallback metadata name (hex FNV hash of the path) never contains a separator -/
theorem hexOf_noSlash (fuel n : Nat) : (hexOf fuel n).any isSlash = false := by
  induction fuel generalizing n with
  | zero => simp [hexOf]
  | succ f ih =>
    simp only [hexOf]
    split
    · rename_i h; simp [hexDigit_noSlash n h]
    · simp [List.any_append, ih, hexDigit_noSlash (n % 16) (Nat.mod_lt _ (by decide))]

/-- Whatever the item id (validated) or path, the metadata file name is a single
    safe element. -/
theorem C07_sidecar_ident (maxName : Nat) (id rel suffix : Bytes) (hid : id ≠ [] → validateFilename maxName id = none)
    (hs : suffix.any isSlash = false) (hlen : 3 ≤ suffix.length) :
    NoDotDot (segs (sidecarIdent id rel ++ suffix)) := by
  unfold sidecarIdent
  split
  · -- the item has an id: that is the name
    rename_i hne
    exact sidecarName_noDotDot maxName id suffix (hid hne) hs hlen
  · -- no id: the name is the hash of the path in hex digits
    exact name_noDotDot _ suffix (hexOf_noSlash _ _) hs hlen

/-- The resume-metadata path built from an item id stays inside `out`. -/
theorem C07_sidecar (maxName : Nat) (out root dirName id suffix : Bytes) (ho : out ≠ [])
    (hr : hasParentSeg root = false)
    (hd : NoDotDot (segs dirName)) (hid : validateFilename maxName id = none)
    (hs : suffix.any isSlash = false) (hlen : 3 ≤ suffix.length) :
    Within (stack out) (stack (((out ++ slash :: root) ++ slash :: dirName) ++ slash :: (id ++ suffix))) :=
  within_trans (within_under out root dirName ho (noParent_noDotDot root hr) hd)
    (within_join (under out root dirName) (id ++ suffix) (by simp [under])
      (sidecarName_noDotDot maxName id suffix hid hs hlen))

/-- Every directory and file of a manifest that passed `validateManifest`, and the
    metadata path of every item with an id, lies inside `out`, in both root-directory modes. -/
theorem C07_manifest (maxPath maxName : Nat) (out : Bytes) (m : Manifest) (ho : out ≠ [])
    (hv : validateManifest maxPath maxName m = true) (it : Item) (hit : it ∈ m.items) :
    Within (stack out) (stack (under out m.root it.rel)) ∧ Within (stack out) (stack (under out [] it.rel)) ∧
    (it.id ≠ [] → validateFilename maxName it.id = none) := by
  simp only [validateManifest, Bool.and_eq_true, Bool.or_eq_true, decide_eq_true_eq, List.all_eq_true,
    Option.isNone_iff_eq_none, Bool.not_eq_true'] at hv
  obtain ⟨hroot, hitems⟩ := hv
  obtain ⟨hrel, hid⟩ := hitems it hit
  have hnil : hasParentSeg [] = false := by decide
  exact ⟨C07_under maxPath out m.root it.rel ho hroot hrel, C07_under maxPath out [] it.rel ho hnil hrel, hid.resolve_left⟩

/-- the escapes of probe P7 are refused by the validation: directory item `../x`, id `../x`, root `../x` -/
example : validateManifest 1024 256 { root := [], items := [⟨[46, 46, 47, 120], true, [], 0⟩] } = false := by decide
example : validateManifest 1024 256 { root := [], items := [⟨[120], false, [46, 46, 47, 120], 1⟩] } = false := by decide
example : validateManifest 1024 256 { root := [46, 46, 47, 120], items := [] } = false := by decide
-- non-vacuity: an ordinary manifest (root `t`, file `a/b..c`, id `0f`) passes
example : validateManifest 1024 256 { root := [116], items := [⟨[97, 47, 98, 46, 46, 99], false, [48, 102], 3⟩] } = true := by decide

/-- order obligations regenerated from the source: validation dominates every use of a peer-supplied path -/
theorem C07_order :
    TV.Gen.Order.recv_validate_before_open.2.1 ≥ 1 ∧
    TV.Gen.Order.recv_validate_before_open.2.2 = TV.Gen.Order.recv_validate_before_open.2.1 ∧
    TV.Gen.Order.recv_validate_before_mkdir.2.2 = TV.Gen.Order.recv_validate_before_mkdir.2.1 ∧
    TV.Gen.Order.recv_manifest_validated_before_mkdir.2.1 ≥ 1 ∧
    TV.Gen.Order.recv_manifest_validated_before_mkdir.2.2 = TV.Gen.Order.recv_manifest_validated_before_mkdir.2.1 := by decide

theorem C07_consts : TV.Gen.Consts.sidecarSuffix.any isSlash = false ∧ 3 ≤ TV.Gen.Consts.sidecarSuffix.length ∧
    NoDotDot (segs TV.Gen.Consts.sidecarDir) := by
  unfold NoDotDot; decide

end TV.C07
