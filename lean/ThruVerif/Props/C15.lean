import ThruVerif.Proofs.Codec
import ThruVerif.Gen.Order
import ThruVerif.Gen.Consts
/-!
# C15 — Malformed or hostile protocol input produces an error, not a crash

The decoder model of `Model/Codec.lean` is total by construction (every read of ended input yields
`eof` / `ueof`, there is no waiting step). Here: it never consumes more than it was given (from the
`*_suffix` lemmas beside the decoders), what it reserves is bounded by what it received, and the
data-frame / FileBegin guards exclude the states in which the real code would panic or index out of range.
-/
namespace TV.C15
open TV TV.Codec

/-- On any byte string followed by end of input `readControlMessage` terminates with
    an error or with a record, having consumed a non-empty prefix and left the rest untouched. -/
theorem C15_total (maxPath : Nat) (bs : Bytes) :
    (∃ e, decode maxPath bs = .error e) ∨
    (∃ r rest c, decode maxPath bs = .ok (r, rest) ∧ bs = c ++ rest ∧ c ≠ []) := by
  fun_cases decode maxPath bs with
  | case4 h0 r0 ht _ _ _ r1 hl rec _ =>
    -- the one branch that returns a record. Consumed: the tag byte `h0` (`ht`), then what `decL` took of the rest (`hl`)
    obtain ⟨rfl, h1⟩ := takeN_ok ht
    obtain ⟨c, rfl⟩ := decL_suffix hl
    refine .inr ⟨rec, r1, h0 ++ c, rfl, (List.append_assoc ..).symm, fun he => ?_⟩
    -- not empty: h1 : h0.length = 1
    rw [(List.append_eq_nil_iff.1 he).1] at h1
    cases h1
  | _ => exact .inl ⟨_, rfl⟩

/-- Ended input at a record boundary is `eof`; no record is invented. -/
theorem C15_eof (maxPath : Nat) : decode maxPath [] = .error .eof := rfl

/-- A byte that is not one of the nine record tags is refused. -/
theorem C15_unknown_tag (maxPath : Nat) (b : UInt8) (rest : Bytes) (h : kindOfTag b.toNat = none) :
    decode maxPath (b :: rest) = .error (.badTag b.toNat) := by
  simp only [decode, takeN_one_cons, beVal_singleton, h]

/-! ### reservation: what the control decoders allocate for peer-supplied lengths -/

/-- threshold above which `readBytesControl` grows its buffer with the data received -/
def step : Nat := 65536

/-- bytes reserved by the read side of one field on input `bs` (upper bound; follows the `make` sites
    listed in `Gen.Order.makeSites` and `readBytesControl` / the CreditBatch append loop) -/
def allocF : Fld → Bytes → Nat
  | .tag _, _ => 1
  | .uint w, _ => w
  | .lenBytes w lim, bs =>
    match getU w bs with
    | .error _ => w
    | .ok (len, r) =>
      if (match lim with | some l => decide (len > l) | none => false) then w
      else if len ≤ step then w + len
      else w + 2 * (min len r.length) + 1024
  | .rep w ws, bs =>
    match getU w bs with
    | .error _ => w
    | .ok (cnt, r) => w + 16 * (min cnt (step / 16)) + 2 * 16 * (min cnt (r.length / ws.sum)) + 16

/-- the widths the bound rests on: integers and length prefixes of at most 8 bytes, repeated groups of at least 12 -/
def narrow : Fld → Bool
  | .tag _ => true
  | .uint w | .lenBytes w _ => w ≤ 8
  | .rep w ws => w ≤ 8 && 12 ≤ ws.sum

theorem allocF_bound (f : Fld) (bs : Bytes) (hf : narrow f) : allocF f bs ≤ 3 * bs.length + step + 1040 := by
  fun_cases allocF f bs <;> simp only [narrow, decide_eq_true_eq, Bool.and_eq_true] at hf
  -- `case6` (a byte string longer than `step`) and `case8` (a repeated group) grow with the input: what follows
  -- the length or count (`r`) is no longer than `bs`, and each `min` is at most its second argument (naming it
  -- spares `omega` the case split). The other branches are constants.
  case case6 len r _ _ hg =>
    have := (getU_suffix hg).length_le
    have h1 : min len r.length ≤ r.length := Nat.min_le_right ..
    generalize min len r.length = a at h1 ⊢
    omega
  case case8 ws cnt r hg =>
    have := (getU_suffix hg).length_le
    have h1 : min cnt (step / 16) ≤ step / 16 := Nat.min_le_right ..
    have h2 : min cnt (r.length / ws.sum) ≤ r.length / 12 :=
      Nat.le_trans (Nat.min_le_right ..) (Nat.div_le_div_left hf.2 (by decide))
    generalize min cnt (step / 16) = a at h1 ⊢
    generalize min cnt (r.length / ws.sum) = b at h2 ⊢
    omega
  all_goals omega

theorem narrow_body (maxPath : Nat) (k : Kind) : (k.body maxPath).all narrow = true := by
  cases k <;> rfl

/-- Every field of every control record reserves at most `3·received + 64 KiB + 1 KiB`,
    whatever length or count the peer announces. -/
theorem C15_alloc (maxPath : Nat) (k : Kind) (f : Fld) (hf : f ∈ k.body maxPath) (bs : Bytes) :
    allocF f bs ≤ 3 * bs.length + step + 1040 :=
  allocF_bound f bs (List.all_eq_true.1 (narrow_body maxPath k) f hf)

/-- the `make` sites of the control decoders are exactly the ones the reservation model accounts for:
    constants, 16-bit lengths, the bounded credit-batch hint and `readBytesControl`'s small-size branch -/
theorem C15_make_sites :
    TV.Gen.Order.makeSites =
      [("readBytesControl", "n", 1, false),
       ("readControlHeader", "len(controlMagic)", 1, true),
       ("readControlMessage", "1", 1, true),
       ("readCreditBatch", "0", 16, true),
       ("readFileBegin", "1", 1, true),
       ("readFileDone", "1", 1, true),
       ("readFileDone", "errLen", 1, false),
       ("readFileResumeInfo", "fileIDLen", 1, false),
       ("readRelPathControl", "relPathLen", 1, false),
       ("readResumeRequest", "fileIDLen", 1, false)] := rfl

/-! ### data frames and FileBegin: the guards that keep the reader away from panics -/

inductive FrameErr | zeroLen | outOfRange | tooLong deriving DecidableEq, Repr

/-- the checks of the data-stream reader on a frame header, in order -/
def frameCheck (total chunkSize idx len : Nat) : Option FrameErr :=
  if len = 0 then some .zeroLen
  else if idx ≥ total then some .outOfRange
  else if chunkSize > 0 ∧ len > chunkSize then some .tooLong
  else none

/-- `handleFileBegin` refuses chunk size 0, so the state a reader sees has `chunkSize > 0` -/
def beginOk (chunkSize : Nat) : Bool := decide (chunkSize > 0)

/-- For a file whose FileBegin was accepted, an accepted frame has a positive buffer size
    (`bufpool.New` panics on ≤ 0), fits the buffer (`buf[:chunkLen]`), and indexes a real chunk. -/
theorem C15_no_panic (total chunkSize idx len : Nat) (hb : beginOk chunkSize = true)
    (h : frameCheck total chunkSize idx len = none) : 0 < chunkSize ∧ len ≤ chunkSize ∧ 0 < len ∧ idx < total := by
  simp only [beginOk, decide_eq_true_eq] at hb
  revert h
  fun_cases frameCheck total chunkSize idx len <;> intro h <;> cases h
  -- only the last branch returns none; there all three guards are false, which with hb is the claim
  omega

-- the inputs of probes P8 / P9, as model facts
example : beginOk 0 = false := by decide
example : frameCheck 0 64 0 3 = some .outOfRange := by decide
example : frameCheck 4 64 1 64 = none := by decide

end TV.C15
