import ThruVerif.Model.Server
import ThruVerif.Gen.Shapes
import Mathlib.Data.List.Nodup
/-!
# C14 — Join codes live exactly as long as their session; server limits hold

Everything is proved for **all sequences of atomic resource operations** (`ROp`), i.e. for every interleaving of
concurrently running handlers, and then transferred to handler-level histories (`handle`), each of which is shown
to be such a sequence (`handle_is_rrun`).
-/
namespace TV.C14
open TV.Server

/-! ## the store -/

structure StoreInv (st : Store) : Prop where
  idsNodup : (st.sessions.map (·.id)).Nodup
  codesNodup : (st.byCode.map (·.1)).Nodup
  fwd : ∀ s ∈ st.sessions, (s.code, s.id) ∈ st.byCode
  bwd : ∀ e ∈ st.byCode, ∃ s ∈ st.sessions, s.id = e.2 ∧ s.code = e.1
  fresh : ∀ s ∈ st.sessions, s.id < st.nextId

theorem find_key {α : Type} {f : α → Nat} {l : List α} (h : (l.map f).Nodup) {k : Nat} {a : α} :
    l.find? (fun x => f x == k) = some a ↔ a ∈ l ∧ f a = k := by
  have found {b : α} (hf : l.find? (fun x => f x == k) = some b) : b ∈ l ∧ f b = k :=
    ⟨List.mem_of_find?_eq_some hf, eq_of_beq (List.find?_some (p := fun x => f x == k) hf)⟩
  refine ⟨found, fun ⟨ha, hk⟩ => ?_⟩
  cases hf : l.find? (fun x => f x == k) with
  | none => exact absurd (beq_iff_eq.mpr hk) (List.find?_eq_none.mp hf a ha)
  | some b =>
    -- `b` has key `k` too, and keys are distinct: it is `a`
    obtain ⟨hb, hbk⟩ := found hf
    rw [List.inj_on_of_nodup_map h hb ha (hbk.trans hk.symm)]

theorem StoreInv.sess_unique {st : Store} (h : StoreInv st) {a b : Sess} (ha : a ∈ st.sessions)
    (hb : b ∈ st.sessions) (hid : a.id = b.id) : a = b :=
  List.inj_on_of_nodup_map h.idsNodup ha hb hid

/-- live sessions have pairwise distinct join codes -/
theorem StoreInv.codes_distinct {st : Store} (h : StoreInv st) {a b : Sess} (ha : a ∈ st.sessions)
    (hb : b ∈ st.sessions) (hc : a.code = b.code) : a = b :=
  -- both sessions have their entry under the one code, and a code has one entry: the ids agree
  have hentry : (a.code, a.id) = (b.code, b.id) :=
    List.inj_on_of_nodup_map h.codesNodup (h.fwd a ha) (h.fwd b hb) hc
  h.sess_unique ha hb (congrArg Prod.snd hentry)

theorem pickCode_eq_find (byCode : List (Nat × Nat)) (cands : List Nat) :
    pickCode byCode cands = cands.find? (fun c => !byCode.any (fun e => e.1 == c)) := by
  induction cands with
  | nil => rfl
  | cons c cs ih => rw [pickCode, List.find?_cons, ih]; cases byCode.any (fun e => e.1 == c) <;> rfl

theorem pickCode_fresh {byCode : List (Nat × Nat)} {cands : List Nat} {c : Nat} (h : pickCode byCode cands = some c) :
    ∀ e ∈ byCode, e.1 ≠ c := by
  have := List.find?_some (pickCode_eq_find .. ▸ h)
  rw [Bool.not_eq_true', List.any_eq_false] at this
  exact fun e he hc => this e he (beq_iff_eq.mpr hc)

theorem pickCode_mem {byCode : List (Nat × Nat)} {cands : List Nat} {c : Nat} (h : pickCode byCode cands = some c) :
    c ∈ cands :=
  List.mem_of_find?_eq_some (pickCode_eq_find .. ▸ h)

/-- the collision loop ends as soon as the generator yields a code that is not registered -/
theorem pickCode_terminates {byCode : List (Nat × Nat)} {cands : List Nat} {c : Nat} (hc : c ∈ cands)
    (hf : ∀ e ∈ byCode, e.1 ≠ c) : ∃ c', pickCode byCode cands = some c' := by
  rw [pickCode_eq_find, ← Option.isSome_iff_exists, List.find?_isSome]
  refine ⟨c, hc, ?_⟩
  rw [Bool.not_eq_true', List.any_eq_false]
  exact fun e he hb => hf e he (beq_iff_eq.mp hb)

theorem nodup_map_snoc {α β : Type} {f : α → β} {l : List α} (h : (l.map f).Nodup) {a : α}
    (ha : ∀ x ∈ l, f x ≠ f a) : ((l ++ [a]).map f).Nodup := by
  rw [List.map_append, List.nodup_append_comm]
  exact List.nodup_cons.mpr ⟨fun hm => let ⟨x, hx, e⟩ := List.mem_map.mp hm; ha x hx e, h⟩

theorem create_inv {st : Store} (h : StoreInv st) (max now : Nat) (cands : List Nat) :
    StoreInv (st.create max now cands).1 := by
  -- the branches of `Store.create`, here and below: limit reached; candidates exhausted; a session stored
  fun_cases Store.create st max now cands
  · exact h
  · exact h
  next c hc s =>
  -- the id is fresh and the code unused: neither filter removes anything
  have hid : ∀ x ∈ st.sessions, x.id ≠ s.id := fun x hx => Nat.ne_of_lt (h.fresh x hx)
  have hcode := pickCode_fresh hc
  rw [List.filter_eq_self.mpr fun x hx => bne_iff_ne.mpr (hid x hx),
    List.filter_eq_self.mpr fun e he => bne_iff_ne.mpr (hcode e he)]
  exact {
    idsNodup := nodup_map_snoc h.idsNodup hid
    codesNodup := nodup_map_snoc h.codesNodup hcode
    fwd := List.forall_mem_append.mpr
      ⟨fun x hx => List.mem_append_left _ (h.fwd x hx), List.forall_mem_singleton.mpr (List.mem_append_right _ (.head _))⟩
    bwd := List.forall_mem_append.mpr
      ⟨fun e he => let ⟨x, hx, hxe⟩ := h.bwd e he; ⟨x, List.mem_append_left _ hx, hxe⟩,
        List.forall_mem_singleton.mpr ⟨s, List.mem_append_right _ (.head _), rfl, rfl⟩⟩
    fresh := List.forall_mem_append.mpr
      ⟨fun x hx => Nat.lt_succ_of_lt (h.fresh x hx), List.forall_mem_singleton.mpr (Nat.lt_succ_self _)⟩ }

theorem create_length {st : Store} {max : Nat} (hp : max > 0) (h : st.sessions.length ≤ max) (now : Nat) (cands : List Nat) :
    (st.create max now cands).1.sessions.length ≤ max := by
  fun_cases Store.create st max now cands
  · exact h
  · exact h
  next hn _ _ s =>
  have hroom : st.sessions.length < max := Nat.lt_of_not_ge fun hge => hn ⟨hp, hge⟩
  have hfilter := List.length_filter_le (fun x : Sess => x.id != s.id) st.sessions
  rw [List.length_append, List.length_singleton]
  exact Nat.succ_le_of_lt (Nat.lt_of_le_of_lt hfilter hroom)

theorem create_limit_iff (st : Store) (max now : Nat) (cands : List Nat) :
    (st.create max now cands).2 = .limit ↔ max > 0 ∧ st.sessions.length ≥ max := by
  fun_cases Store.create st max now cands
  · exact iff_of_true rfl ‹_›
  · exact iff_of_false nofun ‹_›
  · exact iff_of_false nofun ‹_›

/-- dropping session `s0` and the entry of its code keeps the two maps mutually inverse -/
theorem drop_inv {st : Store} (h : StoreInv st) {s0 : Sess} (hs0 : s0 ∈ st.sessions) :
    StoreInv { st with sessions := st.sessions.filter (fun x => x.id != s0.id)
                       byCode := st.byCode.filter (fun e => e.1 != s0.code) } where
  idsNodup := h.idsNodup.sublist (List.filter_sublist.map _)
  codesNodup := h.codesNodup.sublist (List.filter_sublist.map _)
  fwd s hs := by
    simp only [List.mem_filter, bne_iff_ne, ne_eq] at hs ⊢
    exact ⟨h.fwd s hs.1, fun hc => hs.2 (congrArg Sess.id (h.codes_distinct hs.1 hs0 hc))⟩
  bwd e he := by
    simp only [List.mem_filter, bne_iff_ne, ne_eq] at he ⊢
    obtain ⟨s, hs, hid, hc⟩ := h.bwd e he.1
    refine ⟨s, ⟨hs, fun hid0 => he.2 ?_⟩, hid, hc⟩
    rw [← hc, h.sess_unique hs hs0 hid0]
  fresh s hs := h.fresh s (List.mem_of_mem_filter hs)

/-- what the two look-ups of `getByCode` found, if both found something, is the stored session with that code -/
theorem find_both {st : Store} (h : StoreInv st) {code : Nat} {e : Nat × Nat} {s : Sess}
    (he : st.byCode.find? (fun e => e.1 == code) = some e) (hs : st.sessions.find? (fun x => x.id == e.2) = some s) :
    s ∈ st.sessions ∧ s.id = e.2 ∧ s.code = code := by
  obtain ⟨hs, hid⟩ := (find_key h.idsNodup).mp hs
  obtain ⟨he, hc⟩ := (find_key h.codesNodup).mp he
  -- the session `s'` of the entry has the id of `s`: it is `s`
  obtain ⟨s', hs', hid', hc'⟩ := h.bwd e he
  cases h.sess_unique hs' hs (hid'.trans hid.symm)
  exact ⟨hs, hid, hc'.trans hc⟩

theorem getByCode_inv {st : Store} (h : StoreInv st) (code now : Nat) : StoreInv (st.getByCode code now).1 := by
  -- the branches of `Store.getByCode`, here and below: code unknown; id unknown; expired (dropped); live
  fun_cases Store.getByCode st code now
  · exact h
  · exact h
  · next he s hs _ =>
    obtain ⟨hm, rfl, rfl⟩ := find_both h he hs
    exact drop_inv h hm
  · exact h

/-- `GetByJoinCode` answers with a session exactly when one with that code is stored and has not expired -/
theorem getByCode_some_iff {st : Store} (h : StoreInv st) (code now : Nat) (s : Sess) :
    (st.getByCode code now).2 = some s ↔ s ∈ st.sessions ∧ s.code = code ∧ s.expired now = false := by
  constructor
  · fun_cases Store.getByCode st code now
    · nofun
    · nofun
    · nofun
    · next he s' hs hexp =>
      rintro ⟨⟩
      obtain ⟨hm, -, hc⟩ := find_both h he hs
      exact ⟨hm, hc, Bool.eq_false_iff.mpr hexp⟩
  · rintro ⟨hs, rfl, hexp⟩
    simp only [Store.getByCode, (find_key h.codesNodup).mpr ⟨h.fwd s hs, rfl⟩,
      (find_key h.idsNodup).mpr ⟨hs, rfl⟩, hexp, Bool.false_eq_true, if_false]

theorem getByCode_frame (st : Store) (code now : Nat) :
    (st.getByCode code now).1.sessions.Sublist st.sessions ∧ (st.getByCode code now).1.nextId = st.nextId ∧
    ∀ s, (st.getByCode code now).2 = some s → s ∈ st.sessions := by
  fun_cases Store.getByCode st code now
  · exact ⟨.refl _, rfl, nofun⟩
  · exact ⟨.refl _, rfl, nofun⟩
  · exact ⟨List.filter_sublist, rfl, nofun⟩
  · next s hs _ =>
    refine ⟨.refl _, rfl, fun s' h => ?_⟩
    cases h
    exact List.mem_of_find?_eq_some hs

theorem getByCode_sublist (st : Store) (code now : Nat) : (st.getByCode code now).1.sessions.Sublist st.sessions :=
  (getByCode_frame st code now).1

theorem getByCode_found_mem {st : Store} {code now : Nat} {s : Sess} (h : (st.getByCode code now).2 = some s) :
    s ∈ st.sessions :=
  (getByCode_frame st code now).2.2 s h

theorem delete_inv {st : Store} (h : StoreInv st) (id : Nat) : StoreInv (st.delete id) := by
  fun_cases Store.delete st id
  · exact h
  · next s hs =>
    obtain ⟨hm, rfl⟩ := (find_key h.idsNodup).mp hs
    exact drop_inv h hm

theorem delete_frame (st : Store) (id : Nat) :
    (st.delete id).sessions = st.sessions.filter (fun x => x.id != id) ∧ (st.delete id).nextId = st.nextId := by
  fun_cases Store.delete st id
  · next hn =>                          -- no session has this id: the filter removes nothing
    exact ⟨(List.filter_eq_self.mpr fun x hx => by simpa using List.find?_eq_none.mp hn x hx).symm, rfl⟩
  · exact ⟨rfl, rfl⟩

theorem delete_sessions (st : Store) (id : Nat) : (st.delete id).sessions = st.sessions.filter (fun x => x.id != id) :=
  (delete_frame st id).1

theorem delete_nextId (st : Store) (id : Nat) : (st.delete id).nextId = st.nextId :=
  (delete_frame st id).2

theorem delete_sublist (st : Store) (id : Nat) : (st.delete id).sessions.Sublist st.sessions := by
  rw [delete_sessions]
  exact List.filter_sublist

/-- `Store.Delete` removes the session -/
theorem delete_gone (st : Store) (id : Nat) : ∀ x ∈ (st.delete id).sessions, x.id ≠ id := fun x hx => by
  rw [delete_sessions] at hx
  exact bne_iff_ne.mp (List.mem_filter.mp hx).2

/-- ids are only handed out, and a stored session was stored before or got its id since -/
def After (st st' : Store) : Prop :=
  st.nextId ≤ st'.nextId ∧ ∀ x ∈ st'.sessions, x ∈ st.sessions ∨ st.nextId ≤ x.id

theorem After.rfl {st : Store} : After st st := ⟨Nat.le_refl _, fun _ hx => .inl hx⟩

theorem After.of_sublist {st st' : Store} (hs : st'.sessions.Sublist st.sessions) (hn : st'.nextId = st.nextId) :
    After st st' :=
  ⟨Nat.le_of_eq hn.symm, fun _ hx => .inl (hs.subset hx)⟩

theorem create_after (st : Store) (max now : Nat) (cands : List Nat) : After st (st.create max now cands).1 := by
  fun_cases Store.create st max now cands
  · exact .rfl
  · exact .rfl
  · refine ⟨Nat.le_succ _, fun x hx => ?_⟩
    rcases List.mem_append.mp hx with hx | hx
    · exact .inl (List.mem_of_mem_filter hx)
    · cases List.mem_singleton.mp hx            -- the new session: its id is the old `nextId`
      exact .inr (Nat.le_refl _)

/-! ## lifetime -/

/-- an expired session is never returned, whether or not its timer has fired yet -/
theorem expired_not_found {st : Store} (h : StoreInv st) {s : Sess} (_hs : s ∈ st.sessions) {now : Nat}
    (hexp : s.expired now = true) : (st.getByCode s.code now).2 ≠ some s := fun hc =>
  have ⟨_, _, hlive⟩ := (getByCode_some_iff h ..).mp hc
  Bool.false_ne_true (hlive.symm.trans hexp)

/-- expiry is permanent: time only moves forward -/
theorem expired_mono {s : Sess} {now now' : Nat} (h : s.expired now = true) (hle : now ≤ now') : s.expired now' = true := by
  simp only [Sess.expired, Bool.and_eq_true, decide_eq_true_eq] at h ⊢
  exact ⟨h.1, Nat.lt_of_lt_of_le h.2 hle⟩

/-! ## the shared state under arbitrary sequences of atomic operations -/

structure Inv (s : St) : Prop where
  store : StoreInv s.store
  sessCap : s.cfg.maxSessions > 0 → s.store.sessions.length ≤ s.cfg.maxSessions
  recvCap : s.cfg.maxRecv > 0 → ∀ sid, receiversOf s.members sid ≤ s.cfg.maxRecv
  connCap : s.cfg.maxWS > 0 → s.inUse ≤ s.cfg.maxWS

theorem inv_init (cfg : Cfg) (ttl : Nat) : Inv (init cfg ttl) :=
  { store := by constructor <;> simp [init]
    sessCap := fun _ => Nat.zero_le _
    recvCap := fun _ _ => Nat.zero_le _
    connCap := fun _ => Nat.zero_le _ }

theorem rstep_create_fst (s : St) (now : Nat) (cands : List Nat) :
    (rstep s (.create now cands)).1 = { s with store := (s.store.create s.cfg.maxSessions now cands).1 } := by
  simp only [rstep]
  split <;> next heq => rw [heq]

theorem rstep_create_limit_iff (s : St) (now : Nat) (cands : List Nat) :
    (rstep s (.create now cands)).2 = .createLimit ↔ s.cfg.maxSessions > 0 ∧ s.store.count ≥ s.cfg.maxSessions := by
  rw [Store.count, ← create_limit_iff s.store s.cfg.maxSessions now cands]
  simp only [rstep]
  split <;> next heq => simp [heq]

theorem rstep_lookup_fst (s : St) (code now : Nat) :
    (rstep s (.lookup code now)).1 = { s with store := (s.store.getByCode code now).1 } := by
  simp only [rstep]
  split <;> next heq => rw [heq]

theorem rstep_lookup_found_iff (s : St) (code now : Nat) (x : Sess) :
    (rstep s (.lookup code now)).2 = .found x ↔ (s.store.getByCode code now).2 = some x := by
  simp only [rstep]
  split <;> next heq => simp [heq]

theorem rstep_register_admitted_iff (s : St) (m : Member) :
    (rstep s (.register m)).2 = .admitted ↔
      ¬(s.cfg.maxRecv > 0 ∧ m.role = .receiver ∧ receiversOf s.members m.sid ≥ s.cfg.maxRecv) := by
  simp only [rstep]
  split <;> next hc => simp [hc]

theorem rstep_acquire_acquired_iff (s : St) :
    (rstep s .acquire).2 = .acquired ↔ ¬(s.cfg.maxWS > 0 ∧ s.inUse ≥ s.cfg.maxWS) := by
  simp only [rstep]
  split <;> next hc => simp [hc]

theorem acquire_inUse {s s1 : St} {out : ROut} (h : rstep s .acquire = (s1, out)) :
    s1.inUse = s.inUse + (if out = .acquired then 1 else 0) := by
  simp only [rstep] at h
  split at h <;> cases h <;> rfl

theorem rstep_frame (s : St) (o : ROp) :
    (rstep s o).1.cfg = s.cfg ∧ After s.store (rstep s o).1.store ∧
    (o ≠ .acquire → o ≠ .release → (rstep s o).1.inUse = s.inUse) := by
  cases o with
  | create now cands => rw [rstep_create_fst]; exact ⟨rfl, create_after .., fun _ _ => rfl⟩
  | lookup code now =>
    rw [rstep_lookup_fst]
    obtain ⟨hsub, hnext, -⟩ := getByCode_frame s.store code now
    exact ⟨rfl, .of_sublist hsub hnext, fun _ _ => rfl⟩
  | delete sid => exact ⟨rfl, .of_sublist (delete_sublist ..) (delete_nextId ..), fun _ _ => rfl⟩
  | acquire => simp only [rstep]; split <;> exact ⟨rfl, .rfl, fun h => absurd rfl h⟩
  | release => exact ⟨rfl, .rfl, fun _ h => absurd rfl h⟩
  | register m => simp only [rstep]; split <;> exact ⟨rfl, .rfl, fun _ _ => rfl⟩
  | _ => exact ⟨rfl, .rfl, fun _ _ => rfl⟩

theorem rstep_cfg (s : St) (o : ROp) : (rstep s o).1.cfg = s.cfg := (rstep_frame s o).1

theorem rstep_after (s : St) (o : ROp) : After s.store (rstep s o).1.store := (rstep_frame s o).2.1

theorem rstep_inUse_other (s : St) {o : ROp} (ha : o ≠ .acquire) (hr : o ≠ .release) : (rstep s o).1.inUse = s.inUse :=
  (rstep_frame s o).2.2 ha hr

/-- `rstep_frame` for the state `s1` that a `match` on the operation's result names -/
theorem rstep_frame_of_eq {s s1 : St} {o : ROp} {out : ROut} (h : rstep s o = (s1, out)) :
    s1 = rrun s [o] ∧ s1.cfg = s.cfg ∧ (o ≠ .acquire → o ≠ .release → s1.inUse = s.inUse) := by
  cases show (rstep s o).1 = s1 from congrArg Prod.fst h
  exact ⟨rfl, rstep_cfg s o, rstep_inUse_other s⟩

theorem receiversOf_filter_le (ms : List Member) (p : Member → Bool) (sid : Nat) :
    receiversOf (ms.filter p) sid ≤ receiversOf ms sid := by
  unfold receiversOf
  rw [List.filter_filter]
  exact (List.monotone_filter_right _ fun m hm => (Bool.and_eq_true_iff.mp hm).1).length_le

theorem receiversOf_hubAdd (ms : List Member) (m : Member) (sid : Nat) :
    receiversOf (hubAdd ms m) sid ≤ receiversOf ms sid + (if m.sid = sid ∧ m.role = .receiver then 1 else 0) := by
  have h1 := receiversOf_filter_le ms (fun x => !(x.sid == m.sid && x.peer == m.peer) && x.conn != m.conn) sid
  have h2 : receiversOf [m] sid = if m.sid = sid ∧ m.role = .receiver then 1 else 0 := by
    simp only [receiversOf, List.filter_cons, List.filter_nil, Bool.and_eq_true, beq_iff_eq]
    split <;> rfl
  unfold hubAdd
  unfold receiversOf at *
  rw [List.filter_append, List.length_append, h2]
  omega

theorem rstep_inv {s : St} (h : Inv s) (o : ROp) : Inv (rstep s o).1 := by
  cases o with
  | create now cands =>
    rw [rstep_create_fst]
    exact { h with store := create_inv h.store .., sessCap := fun hp => create_length hp (h.sessCap hp) now cands }
  | lookup code now =>
    rw [rstep_lookup_fst]
    exact { h with
      store := getByCode_inv h.store ..
      sessCap := fun hp => Nat.le_trans (getByCode_sublist ..).length_le (h.sessCap hp) }
  | delete sid =>
    exact { h with
      store := delete_inv h.store sid
      sessCap := fun hp => Nat.le_trans (delete_sublist ..).length_le (h.sessCap hp) }
  | acquire =>
    simp only [rstep]
    split
    · exact h
    · next hn =>
      refine { h with connCap := fun hp => ?_ }
      have hroom : s.inUse < s.cfg.maxWS := Nat.lt_of_not_ge fun hge => hn ⟨hp, hge⟩
      exact Nat.succ_le_of_lt hroom
  | release => exact { h with connCap := fun hp => Nat.le_trans (Nat.sub_le ..) (h.connCap hp) }
  | register m =>
    simp only [rstep]
    split
    · exact h
    · next hn =>
      refine { h with recvCap := fun hp sid => ?_ }
      have hadd := receiversOf_hubAdd s.members m sid
      split at hadd
      · next hc =>
        -- `m` is a receiver for session `sid`: it was admitted, so the session was below the limit
        have hroom : receiversOf s.members m.sid < s.cfg.maxRecv := Nat.lt_of_not_ge fun hge => hn ⟨hp, hc.2, hge⟩
        rw [hc.1] at hroom
        exact Nat.le_trans hadd (Nat.succ_le_of_lt hroom)
      · exact Nat.le_trans hadd (h.recvCap hp sid)      -- anybody else: `hadd` adds 0
  | remove conn =>
    exact { h with recvCap := fun hp sid => Nat.le_trans (receiversOf_filter_le ..) (h.recvCap hp sid) }
  | closeSession sid =>
    exact { h with recvCap := fun hp sid' => Nat.le_trans (receiversOf_filter_le ..) (h.recvCap hp sid') }

theorem rrun_ind {P : St → Prop} (step : ∀ s o, P s → P (rstep s o).1) {s : St} (h : P s) (ops : List ROp) :
    P (rrun s ops) := by
  induction ops generalizing s with
  | nil => exact h
  | cons o os ih => exact ih (step s o h)

theorem rrun_inv {s : St} (h : Inv s) (ops : List ROp) : Inv (rrun s ops) :=
  rrun_ind (P := Inv) (fun _ o hs => rstep_inv hs o) h ops

theorem rrun_cfg (s : St) (ops : List ROp) : (rrun s ops).cfg = s.cfg :=
  rrun_ind (P := fun s' => s'.cfg = s.cfg) (fun s' o h => (rstep_cfg s' o).trans h) rfl ops

theorem rrun_append (s : St) (a b : List ROp) : rrun s (a ++ b) = rrun (rrun s a) b := by
  induction a generalizing s with
  | nil => rfl
  | cons o os ih => exact ih _

theorem rrun_snoc {s0 s s1 : St} {ops : List ROp} (h : s = rrun s0 ops) {o : ROp} {out : ROut}
    (heq : rstep s o = (s1, out)) : s1 = rrun s0 (ops ++ [o]) := by
  rw [rrun_append, ← h]
  exact (congrArg Prod.fst heq).symm

/-! ## a session that is gone stays gone -/

/-- the id was handed out and no stored session carries it -/
def Dead (s : St) (id : Nat) : Prop := id < s.store.nextId ∧ ∀ x ∈ s.store.sessions, x.id ≠ id

theorem rstep_dead {s : St} {id : Nat} (h : Dead s id) (o : ROp) : Dead (rstep s o).1 id :=
  have ⟨hlt, hno⟩ := h
  have ⟨hnext, hstored⟩ := rstep_after s o
  -- a session stored afterwards was stored before (so its id is not `id`) or got its id since (≥ old `nextId` > `id`)
  ⟨Nat.lt_of_lt_of_le hlt hnext,
    fun x hx => (hstored x hx).elim (hno x) fun hle => Nat.ne_of_gt (Nat.lt_of_lt_of_le hlt hle)⟩

theorem rrun_dead {s : St} {id : Nat} (h : Dead s id) (ops : List ROp) : Dead (rrun s ops) id :=
  rrun_ind (P := (Dead · id)) (fun _ o hs => rstep_dead hs o) h ops

theorem rrun_delete_dead {s : St} {id : Nat} (hlt : id < s.store.nextId) {ops : List ROp} (hmem : .delete id ∈ ops) :
    Dead (rrun s ops) id := by
  induction ops generalizing s with
  | nil => cases hmem
  | cons o os ih =>
    rcases List.mem_cons.mp hmem with rfl | hm
    · have hdead : Dead (rstep s (.delete id)).1 id :=       -- its store is `s.store.delete id`
        ⟨Nat.lt_of_lt_of_eq hlt (delete_nextId s.store id).symm, delete_gone s.store id⟩
      exact rrun_dead hdead os
    · have hnext : s.store.nextId ≤ (rstep s o).1.store.nextId := (rstep_after s o).1
      exact ih (Nat.lt_of_lt_of_le hlt hnext) hm

/-! ## handlers are sequences of atomic operations -/

theorem mrCheck_not_opened {cfg : Cfg} {mr : Option Int} {e : Out} (h : mrCheck cfg mr = some e) (sid : Nat) :
    e ≠ .opened sid := by
  unfold mrCheck at h
  split at h
  · cases h
  · split at h
    · cases h; nofun
    · split at h
      · cases h; nofun
      · cases h

/-- `wsAdmit`, entered in the state `s` that the operations `ops` led to, performs the operations it reports; it
opens session `x`, or refuses and gives back the slot it was handed. In a handler's result `r`, here and below, `r.1`
is the state it ends in, `r.2.1` its answer, `r.2.2` the operations performed. -/
theorem wsAdmit_spec {s0 s : St} {ops : List ROp} (h : s = rrun s0 ops) {x : Sess} {conn peer : Nat} {role : Role}
    {held : Bool} {r : St × Out × List ROp} (hr : wsAdmit s x conn peer role ops held = r) :
    r.1 = rrun s0 r.2.2 ∧
    (r.2.1 = .opened x.id ∧ r.1.inUse = s.inUse ∨
     (∀ sid, r.2.1 ≠ .opened sid) ∧ r.1.inUse = s.inUse - (if held then 1 else 0)) := by
  subst hr
  fun_cases wsAdmit s x conn peer role ops held
  · next s3 heq =>                      -- admitted (registering is neither `acquire` nor `release`)
    exact ⟨rrun_snoc h heq, .inl ⟨rfl, (rstep_frame_of_eq heq).2.2 nofun nofun⟩⟩
  · next s3 _ _ heq hheld =>            -- refused with a slot in hand: the `release` gives it back
    have hrun := rrun_snoc (rrun_snoc h heq) (o := .release) rfl
    rw [List.append_assoc] at hrun
    refine ⟨hrun, .inr ⟨nofun, ?_⟩⟩
    rw [if_pos hheld, ← (rstep_frame_of_eq heq).2.2 nofun nofun]
    rfl
  · next s3 _ _ heq hheld =>            -- refused with none in hand
    refine ⟨rrun_snoc h heq, .inr ⟨nofun, ?_⟩⟩
    rw [if_neg hheld]
    exact (rstep_frame_of_eq heq).2.2 nofun nofun

theorem wsAcquire_spec {s0 s : St} {ops : List ROp} (h : s = rrun s0 ops) {x : Sess} {conn peer : Nat} {role : Role}
    {r : St × Out × List ROp} (hr : wsAcquire s x conn peer role ops = r) :
    r.1 = rrun s0 r.2.2 ∧
    (r.2.1 = .opened x.id ∧ r.1.inUse = s.inUse + (if s.cfg.maxWS > 0 then 1 else 0) ∨
     (∀ sid, r.2.1 ≠ .opened sid) ∧ r.1.inUse = s.inUse) := by
  subst hr
  fun_cases wsAcquire s x conn peer role ops
  · next hw s2 heq =>                   -- a slot acquired: `wsAdmit` holds it
    obtain ⟨h1, h2⟩ := wsAdmit_spec (rrun_snoc h heq) (r := wsAdmit s2 x conn peer role (ops ++ [.acquire]) true) rfl
    -- opened: the slot is kept; refused: the slot taken is the slot given back, `inUse + 1 - 1`
    rw [acquire_inUse heq, if_pos (rfl : ROut.acquired = .acquired), if_pos (rfl : true = true),
      Nat.add_sub_cancel] at h2
    rw [if_pos hw]
    exact ⟨h1, h2⟩
  · next hw s2 out hno heq =>           -- no slot free
    have hi := acquire_inUse heq
    rw [if_neg hno, Nat.add_zero] at hi
    exact ⟨rrun_snoc h heq, .inr ⟨nofun, hi⟩⟩
  · next hw =>                          -- no limiter: `wsAdmit` holds nothing
    obtain ⟨h1, h2⟩ := wsAdmit_spec h (r := wsAdmit s x conn peer role ops false) rfl
    rw [if_neg Bool.false_ne_true, Nat.sub_zero] at h2
    rw [if_neg hw, Nat.add_zero]
    exact ⟨h1, h2⟩

/-- what `/ws` does: it performs the operations it reports; it opens only the session its look-up found, and then
holds one connection slot (if slots are configured); otherwise the slot counter is as before -/
theorem wsOpen_spec {s : St} {code peer : Nat} {role : Role} {mr : Option Int} {conn now : Nat}
    {r : St × Out × List ROp} (hr : wsOpen s code peer role mr conn now = r) :
    r.1 = rrun s r.2.2 ∧
    ((∃ x, (rstep s (.lookup code now)).2 = .found x ∧ r.2.1 = .opened x.id) ∧
        r.1.inUse = s.inUse + (if s.cfg.maxWS > 0 then 1 else 0) ∨
     (∀ sid, r.2.1 ≠ .opened sid) ∧ r.1.inUse = s.inUse) := by
  subst hr
  fun_cases wsOpen s code peer role mr conn now
  case case1 => exact ⟨rfl, .inr ⟨nofun, rfl⟩⟩                    -- no join code: nothing done
  case case5 s1 x heq _ _ _ =>                                    -- session found, request well-formed
    obtain ⟨hrun, hcfg, hinUse⟩ := rstep_frame_of_eq heq
    obtain ⟨h1, h2⟩ := wsAcquire_spec hrun (r := wsAcquire s1 x conn peer role [.lookup code now]) rfl
    rw [hinUse nofun nofun, hcfg] at h2
    exact ⟨h1, h2.imp_left fun ⟨ho, hn⟩ => ⟨⟨x, by rw [heq], ho⟩, hn⟩⟩
  -- every remaining branch ends in `s1` with an answer that is not `opened`
  case case4 he =>                                                -- `max_receivers` refused
    obtain ⟨hrun, -, hinUse⟩ := rstep_frame_of_eq ‹rstep _ _ = _›
    exact ⟨hrun, .inr ⟨mrCheck_not_opened (Option.ite_none_right_eq_some.mp he).2, hinUse nofun nofun⟩⟩
  all_goals                                                       -- no peer id; bad role; session not found
    obtain ⟨hrun, -, hinUse⟩ := rstep_frame_of_eq ‹rstep _ _ = _›
    exact ⟨hrun, .inr ⟨nofun, hinUse nofun nofun⟩⟩

theorem handle_is_rrun (h : HSt) (e : Ev) : (handle h e).1.st = rrun h.st (handle h e).2.2 := by
  fun_cases handle h e
  case case2 | case3 | case4 =>                                   -- `/session` after its `create`
    obtain ⟨hrun, -, -⟩ := rstep_frame_of_eq ‹_›
    exact hrun
  case case5 | case6 =>                                           -- `/ws`
    obtain ⟨hrun, -⟩ := wsOpen_spec ‹_›
    exact hrun
  all_goals rfl                                                   -- no operation, or the state is written as `rrun` of them

def srun (h : HSt) : List Ev → HSt
  | [] => h
  | e :: es => srun (handle h e).1 es

/-- every handler-level history is a resource-level run, hence reachable -/
theorem srun_is_rrun (h : HSt) (es : List Ev) : ∃ ops, (srun h es).st = rrun h.st ops := by
  induction es generalizing h with
  | nil => exact ⟨[], rfl⟩
  | cons e es ih =>
    obtain ⟨ops, hops⟩ := ih (handle h e).1
    exact ⟨(handle h e).2.2 ++ ops, by rw [srun, hops, handle_is_rrun, rrun_append]⟩

/-! ## the property -/

/-- **Reachable shared states**: any sequence of atomic operations from the empty server, i.e. any interleaving
of any number of concurrently running handlers. -/
def Reachable (cfg : Cfg) (ttl : Nat) (s : St) : Prop := ∃ ops, s = rrun (init cfg ttl) ops

theorem reachable_inv {cfg : Cfg} {ttl : Nat} {s : St} (h : Reachable cfg ttl s) : Inv s := by
  obtain ⟨ops, rfl⟩ := h
  exact rrun_inv (inv_init cfg ttl) ops

theorem reachable_cfg {cfg : Cfg} {ttl : Nat} {s : St} (h : Reachable cfg ttl s) : s.cfg = cfg := by
  obtain ⟨ops, rfl⟩ := h
  exact rrun_cfg ..

/-- sequentially handled requests (what the differential against the binary runs) reach such states only -/
theorem srun_reachable (cfg : Cfg) (ttl : Nat) (es : List Ev) : Reachable cfg ttl (srun (hinit cfg ttl) es).st :=
  srun_is_rrun (hinit cfg ttl) es

/-- codes of live sessions are pairwise distinct, and the two maps of the store agree -/
theorem C14_codes_distinct {cfg : Cfg} {ttl : Nat} {s : St} (h : Reachable cfg ttl s) {a b : Sess}
    (ha : a ∈ s.store.sessions) (hb : b ∈ s.store.sessions) (hc : a.code = b.code) : a = b :=
  (reachable_inv h).store.codes_distinct ha hb hc

theorem C14_store_maps_agree {cfg : Cfg} {ttl : Nat} {s : St} (h : Reachable cfg ttl s) :
    (∀ x ∈ s.store.sessions, (x.code, x.id) ∈ s.store.byCode) ∧
    (∀ e ∈ s.store.byCode, ∃ x ∈ s.store.sessions, x.id = e.2 ∧ x.code = e.1) :=
  ⟨(reachable_inv h).store.fwd, (reachable_inv h).store.bwd⟩

/-- a join code admits exactly while its session is stored and unexpired -/
theorem C14_lifetime {cfg : Cfg} {ttl : Nat} {s : St} (h : Reachable cfg ttl s) (code now : Nat) (x : Sess) :
    (rstep s (.lookup code now)).2 = .found x ↔ x ∈ s.store.sessions ∧ x.code = code ∧ x.expired now = false :=
  (rstep_lookup_found_iff ..).trans (getByCode_some_iff (reachable_inv h).store ..)

/-- a WebSocket is opened only into a stored, unexpired session carrying the presented code -/
theorem C14_open_only_live {cfg : Cfg} {ttl : Nat} {s : St} (h : Reachable cfg ttl s) {code peer conn now sid : Nat}
    {role : Role} {mr : Option Int} (ho : (wsOpen s code peer role mr conn now).2.1 = .opened sid) :
    ∃ x ∈ s.store.sessions, x.id = sid ∧ x.code = code ∧ x.expired now = false := by
  rcases wsOpen_spec (rfl : wsOpen s code peer role mr conn now = _) with ⟨-, ⟨⟨x, hx, hox⟩, -⟩ | ⟨hno, -⟩⟩
  · obtain ⟨hstored, hlive⟩ := (C14_lifetime h code now x).mp hx
    exact ⟨x, hstored, Out.opened.inj (hox.symm.trans ho), hlive⟩
  · exact absurd ho (hno sid)

/-- once the session is gone (host left, expired and collected, or deleted) its id never comes back: no later
lookup, under any further interleaving, returns it -/
theorem C14_never_afterwards {s : St} {id : Nat} (hd : Dead s id) (ops : List ROp) (code now : Nat) (x : Sess)
    (hf : (rstep (rrun s ops) (.lookup code now)).2 = .found x) : x.id ≠ id :=
  have hstored : x ∈ (rrun s ops).store.sessions := getByCode_found_mem ((rstep_lookup_found_iff ..).mp hf)
  have ⟨_, hno⟩ := rrun_dead hd ops
  hno x hstored

/-- the host's disconnect kills the session: whatever else the clean-up does, and whatever follows -/
theorem C14_host_left_dead {cfg : Cfg} {ttl : Nat} {h : HSt} (hr : Reachable cfg ttl h.st) {conn : Nat} {m : Member}
    (hm : h.socks.find? (fun m => m.conn == conn) = some m) (hrole : m.role = .sender)
    (hlive : m.sid < h.st.store.nextId) : Dead (handle h (.wsClose conn)).1.st m.sid := by
  simp only [handle, hm]
  exact rrun_delete_dead hlive (by simp [closeOps, hrole])       -- a sender's clean-up begins with `delete m.sid`

/-- the expiry timer kills the session and unregisters its peers -/
theorem C14_timer_dead {cfg : Cfg} {ttl : Nat} {h : HSt} (hr : Reachable cfg ttl h.st) {sid : Nat}
    (hlive : sid < h.st.store.nextId) :
    Dead (handle h (.timer sid)).1.st sid :=
  rrun_delete_dead hlive (List.mem_append_left _ (.tail _ (.head _)))   -- its second operation

theorem C14_close_session_unregisters (s : St) (sid : Nat) :
    ∀ m ∈ (rstep s (.closeSession sid)).1.members, m.sid ≠ sid := fun _ hm =>
  bne_iff_ne.mp (List.mem_filter.mp hm).2

/-- the configured limits hold in every reachable state — for every interleaving of concurrent requests -/
theorem C14_limits {cfg : Cfg} {ttl : Nat} {s : St} (h : Reachable cfg ttl s) :
    (cfg.maxSessions > 0 → s.store.count ≤ cfg.maxSessions) ∧
    (cfg.maxRecv > 0 → ∀ sid, receiversOf s.members sid ≤ cfg.maxRecv) ∧
    (cfg.maxWS > 0 → s.inUse ≤ cfg.maxWS) := by
  have hi := reachable_inv h
  rw [← reachable_cfg h]
  exact ⟨hi.sessCap, hi.recvCap, hi.connCap⟩

/-- a limit of 0 never refuses -/
theorem C14_zero_sessions (s : St) (h0 : s.cfg.maxSessions = 0) (now : Nat) (cands : List Nat) :
    (rstep s (.create now cands)).2 ≠ .createLimit :=
  (rstep_create_limit_iff ..).not.mpr (by omega)

theorem C14_zero_receivers (s : St) (h0 : s.cfg.maxRecv = 0) (m : Member) : (rstep s (.register m)).2 = .admitted :=
  (rstep_register_admitted_iff ..).mpr (by omega)

theorem C14_zero_conns (s : St) (h0 : s.cfg.maxWS = 0) : (rstep s .acquire).2 = .acquired :=
  (rstep_acquire_acquired_iff ..).mpr (by omega)

/-- below the limit nobody is refused (the limits are not over-strict) -/
theorem C14_not_overstrict (s : St) :
    (s.store.count < s.cfg.maxSessions → ∀ now cands, (rstep s (.create now cands)).2 ≠ .createLimit) ∧
    (∀ m, receiversOf s.members m.sid < s.cfg.maxRecv → (rstep s (.register m)).2 = .admitted) ∧
    (s.inUse < s.cfg.maxWS → (rstep s .acquire).2 = .acquired) :=
  ⟨fun h _ _ => (rstep_create_limit_iff ..).not.mpr (by omega),
    fun _ h => (rstep_register_admitted_iff ..).mpr (by omega),
    fun h => (rstep_acquire_acquired_iff ..).mpr (by omega)⟩

theorem msgAccepted_iff (cfg : Cfg) (size : Nat) : msgAccepted cfg size = true ↔ cfg.maxMsg = 0 ∨ size ≤ cfg.maxMsg := by
  simp [msgAccepted]

theorem C14_zero_msg (cfg : Cfg) (h0 : cfg.maxMsg = 0) (size : Nat) : msgAccepted cfg size = true :=
  (msgAccepted_iff ..).mpr (.inl h0)

/-- a processed message is within the configured size -/
theorem C14_msg_size (cfg : Cfg) (size : Nat) (hp : cfg.maxMsg > 0) (h : msgAccepted cfg size = true) :
    size ≤ cfg.maxMsg :=
  ((msgAccepted_iff ..).mp h).resolve_left (Nat.ne_of_gt hp)

/-! ## token bucket and connection limiter -/

/-- `Allow` neither makes nor loses tokens -/
theorem allow_tokens (u : Nat) (b : Bucket) (dt : Nat) :
    (b.allow u dt).1.tokens + (if (b.allow u dt).2 then 1 else 0) * u = min (b.tokens + dt * b.rate) b.burst := by
  unfold Bucket.allow
  dsimp only
  -- with `t` the tokens after the refill: refused, `t + 0 * u = t`; admitted, `t - u + 1 * u = t` as `u ≤ t`
  split
  · exact (congrArg _ (Nat.zero_mul u)).trans (Nat.add_zero _)
  · exact (congrArg _ (Nat.one_mul u)).trans (Nat.sub_add_cancel (Nat.le_of_not_lt ‹_›))

theorem allow_params (u : Nat) (b : Bucket) (dt : Nat) :
    (b.allow u dt).1.rate = b.rate ∧ (b.allow u dt).1.burst = b.burst := by
  unfold Bucket.allow
  dsimp only
  split <;> exact ⟨rfl, rfl⟩

theorem allow_rate (u : Nat) (b : Bucket) (dt : Nat) : (b.allow u dt).1.rate = b.rate := (allow_params u b dt).1

theorem runAllow_params (u : Nat) (b : Bucket) (dts : List Nat) :
    (b.runAllow u dts).1.rate = b.rate ∧ (b.runAllow u dts).1.burst = b.burst := by
  induction dts generalizing b with
  | nil => exact ⟨rfl, rfl⟩
  | cons dt dts ih =>
    obtain ⟨hrate, hburst⟩ := allow_params u b dt
    have := ih (b.allow u dt).1
    rwa [hrate, hburst] at this

/-- over any arrival pattern, admitted events (in the unit of account) plus what is left never exceed what was
there plus what the rate added: in an interval of total length `T` at most `burst + rate·T` events pass -/
theorem bucket_account (u : Nat) (b : Bucket) (dts : List Nat) :
    (b.runAllow u dts).2 * u + (b.runAllow u dts).1.tokens ≤ b.tokens + dts.sum * b.rate := by
  induction dts generalizing b with
  | nil => simp [Bucket.runAllow]
  | cons dt dts ih =>
    have h1 := allow_tokens u b dt
    have h2 := ih (b.allow u dt).1
    rw [allow_rate] at h2
    simp only [Bucket.runAllow, List.sum_cons, Nat.add_mul]
    omega

/-- the first call of a window finds at most `burst` in the bucket, whatever went on before and however long it was idle -/
theorem bucket_window (u : Nat) (b : Bucket) (dt0 : Nat) (dts : List Nat) :
    (b.runAllow u (dt0 :: dts)).2 * u ≤ b.burst + dts.sum * b.rate := by
  have h1 := allow_tokens u b dt0
  have h2 := bucket_account u (b.allow u dt0).1 dts
  rw [allow_rate] at h2
  simp only [Bucket.runAllow, Nat.add_mul]
  omega

theorem new_burst (u rate burst : Nat) : (Bucket.new u rate burst).burst = max burst 1 * u := by
  unfold Bucket.new
  dsimp only
  split <;> congr 1 <;> omega

theorem new_rate (u rate burst : Nat) : (Bucket.new u rate burst).rate = rate := rfl

theorem C14_bucket (u rate burst : Nat) (dts : List Nat) :
    ((Bucket.new u rate burst).runAllow u dts).2 * u ≤ (max burst 1) * u + dts.sum * rate := by
  have h := bucket_account u (Bucket.new u rate burst) dts
  -- a new bucket is full: `Bucket.new` gives `tokens` the value it gives `burst`
  have htokens : (Bucket.new u rate burst).tokens = max burst 1 * u := new_burst u rate burst
  rw [htokens, new_rate] at h
  exact Nat.le_trans (Nat.le_add_right ..) h

/-- In every window of a bucket's life - after any history `pre`, starting with any call (after any idle
time `dt0`) - the calls admitted from that call on number at most `burst + rate · (time from that call to the last)`: idle time before
the window buys nothing beyond the burst. -/
theorem C14_bucket_window (u rate burst : Nat) (pre : List Nat) (dt0 : Nat) (dts : List Nat) :
    ((((Bucket.new u rate burst).runAllow u pre).1).runAllow u (dt0 :: dts)).2 * u ≤ (max burst 1) * u + dts.sum * rate := by
  have h := bucket_window u ((Bucket.new u rate burst).runAllow u pre).1 dt0 dts
  obtain ⟨hrate, hburst⟩ := runAllow_params u (Bucket.new u rate burst) pre
  rwa [hrate, hburst, new_burst, new_rate] at h

-- a volley of 2·burst after a long idle period: only `burst` pass (rate 5/s, burst 5, unit 1000, times in ms)
example : ((Bucket.new 1000 5 5).runAllow 1000 ([1300] ++ List.replicate 14 0)).2 = 5 := by decide

/-- a full bucket admits: the limiter is not stricter than configured -/
theorem bucket_admits_when_full (u : Nat) (b : Bucket) (dt : Nat) (h : u ≤ min (b.tokens + dt * b.rate) b.burst) :
    (b.allow u dt).2 = true := by
  unfold Bucket.allow
  dsimp only
  rw [if_neg (Nat.not_lt_of_le h)]

theorem connRun_bound (limit : Nat) (hl : limit > 0) (inUse : Nat) (ops : List Bool) (h : inUse ≤ limit) :
    (connRun limit inUse ops).1 ≤ limit := by
  induction ops generalizing inUse with
  | nil => exact h
  | cons o os ih =>
    cases o with
    | true =>
      simp only [connRun]
      split
      · exact ih inUse h
      · next hn =>
        have hroom : inUse < limit := Nat.lt_of_not_ge fun hge => hn ⟨hl, hge⟩
        exact ih _ (Nat.succ_le_of_lt hroom)
    | false => exact ih _ (Nat.le_trans (Nat.sub_le ..) h)

/-! ## non-vacuity: concrete runs -/

def demoCfg : Cfg := ⟨2, 1, 3, 100⟩

/-- two sessions fit, the third is refused; the first code admits, an unknown one does not -/
example :
    let s0 := init demoCfg 1000
    let (s1, o1) := rstep s0 (.create 10 [7])
    let (s2, o2) := rstep s1 (.create 20 [7, 8])     -- collision on 7, retry yields 8
    let (s3, o3) := rstep s2 (.create 30 [9])
    (o1, o2, o3) = (.created ⟨1, 7, 1010⟩, .created ⟨2, 8, 1020⟩, .createLimit) ∧
    (rstep s3 (.lookup 7 500)).2 = .found ⟨1, 7, 1010⟩ ∧ (rstep s3 (.lookup 7 1011)).2 = .notFound ∧
    (rstep s3 (.lookup 5 500)).2 = .notFound := by decide

/-- host leaves: the code is dead; the receiver limit refuses the second receiver -/
example :
    let s0 := hinit demoCfg 0
    let s1 := srun s0 [.post none 10 [7], .wsOpen 7 1 .sender none 100 11, .wsOpen 7 2 .receiver none 101 12]
    (handle s1 (.wsOpen 7 3 .receiver none 102 13)).2.1 = .tooMany "receiver limit reached" ∧
    (handle (handle s1 (.wsClose 100)).1 (.wsOpen 7 3 .receiver none 102 14)).2.1 = .notFound ∧
    s1.st.inUse = 2 ∧
    (handle (handle s1 (.wsOpen 7 3 .sender none 102 13)).1 (.wsOpen 7 4 .sender none 103 13)).2.1 = .tooMany "connection limit reached" := by decide

/-- expiry: the timer unregisters and disconnects the peers, and frees their connection slots -/
example :
    let s1 := srun (hinit demoCfg 50) [.post none 10 [7], .wsOpen 7 1 .sender none 100 11, .wsOpen 7 2 .receiver none 101 12]
    let s2 := (handle s1 (.timer 1)).1
    s1.st.members.length = 2 ∧ s2.st.members = [] ∧ s2.socks = [] ∧ s2.st.inUse = 0 ∧ s2.st.store.sessions = [] := by decide

example : Reachable demoCfg 0 (rrun (init demoCfg 0) [.create 1 [5], .lookup 5 2, .acquire, .register ⟨1, 1, 1, .receiver⟩]) := ⟨_, rfl⟩

example : ((Bucket.new 1000 1 3).runAllow 1000 [0, 0, 0, 0, 500, 500, 0]).2 = 4 := by decide

/-! ## connection slots are exactly the open sockets

With `max-ws-connections` configured, the limiter's counter equals the number of sockets whose handler is running, after
every handler-level history in which connection ids are fresh (the server draws them at random): the bound of
`C14_limits` on the counter is a bound on the concurrently open WebSocket connections. -/

structure Slots (h : HSt) : Prop where
  count : h.st.cfg.maxWS > 0 → h.st.inUse = h.socks.length
  nodup : (h.socks.map (·.conn)).Nodup

def freshConn (h : HSt) : Ev → Prop
  | .wsOpen _ _ _ _ conn _ => ∀ m ∈ h.socks, m.conn ≠ conn
  | _ => True

theorem rrun_closeOps_cfg (s : St) (cfg : Cfg) (m : Member) : (rrun s (closeOps cfg m)).cfg = s.cfg := rrun_cfg _ _

theorem rrun_closeOps_inUse (s : St) (cfg : Cfg) (m : Member) :
    (rrun s (closeOps cfg m)).inUse = if cfg.maxWS > 0 then s.inUse - 1 else s.inUse := by
  unfold closeOps
  by_cases hs : m.role = .sender <;> by_cases hw : cfg.maxWS > 0 <;> simp [hs, hw, rrun, rstep]

theorem rrun_flat_closeOps_inUse (s : St) {cfg : Cfg} (hw : cfg.maxWS > 0) (ks : List Member) :
    (rrun s (ks.flatMap (closeOps cfg))).inUse = s.inUse - ks.length := by
  induction ks generalizing s with
  | nil => rfl
  | cons k ks ih =>
    rw [List.flatMap_cons, rrun_append, ih, rrun_closeOps_inUse, if_pos hw, List.length_cons]
    omega

/-- connection ids are distinct: filtering one out of them erases its single occurrence -/
theorem length_filter_conn_ne {l : List Member} (hnd : (l.map (·.conn)).Nodup) {m : Member} (hm : m ∈ l) :
    (l.filter (fun x => x.conn != m.conn)).length = l.length - 1 := by
  have := List.length_erase_of_mem (List.mem_map_of_mem (f := (·.conn)) hm)
  rwa [hnd.erase_eq_filter, List.filter_map, List.length_map, List.length_map] at this

/-- connection ids are distinct: the sockets that stay are exactly those that were not kicked -/
theorem kicked_split (socks : List Member) (P : Member → Bool) (hnd : (socks.map (·.conn)).Nodup) :
    (socks.filter (fun m => !(socks.filter P).any (fun k => k.conn == m.conn))).length =
      socks.length - (socks.filter P).length := by
  have hcongr : socks.filter (fun m => !(socks.filter P).any (fun k => k.conn == m.conn)) = socks.filter (fun m => !P m) := by
    refine List.filter_congr fun y hy => congrArg _ ?_
    rw [Bool.eq_iff_iff, List.any_eq_true]
    constructor
    · rintro ⟨k, hk, hc⟩
      obtain ⟨hk, hp⟩ := List.mem_filter.mp hk
      have hky : k = y := List.inj_on_of_nodup_map hnd hk hy (beq_iff_eq.mp hc)
      rwa [← hky]
    · exact fun hp => ⟨y, List.mem_filter.mpr ⟨hy, hp⟩, beq_self_eq_true _⟩
  rw [hcongr]
  exact Nat.eq_sub_of_add_eq' (List.length_eq_length_filter_add P).symm

theorem handle_slots {h : HSt} {e : Ev} (hs : Slots h) (hf : freshConn h e) : Slots (handle h e).1 := by
  -- the configuration does not change: `maxWS > 0` can be asked of the state before
  suffices hk : (h.st.cfg.maxWS > 0 → (handle h e).1.st.inUse = (handle h e).1.socks.length) ∧
      ((handle h e).1.socks.map (·.conn)).Nodup from
    ⟨fun hw => hk.1 (by rwa [handle_is_rrun, rrun_cfg] at hw), hk.2⟩
  fun_cases handle h e
  case case1 | case8 => exact ⟨hs.count, hs.nodup⟩               -- nothing done
  case case2 | case3 | case4 =>                                   -- `/session` after its `create`
    obtain ⟨-, -, hinUse⟩ := rstep_frame_of_eq ‹rstep _ _ = _›
    exact ⟨fun hw => (hinUse nofun nofun).trans (hs.count hw), hs.nodup⟩
  case case5 heq =>                                               -- `/ws`, opened: one more socket, one more slot
    rcases wsOpen_spec heq with ⟨-, ⟨-, hi⟩ | ⟨hno, -⟩⟩
    · refine ⟨fun hw => ?_, nodup_map_snoc hs.nodup hf⟩
      rw [if_pos hw] at hi
      rw [List.length_append, List.length_singleton, ← hs.count hw]
      exact hi
    · exact absurd rfl (hno _)
  case case6 hno heq =>                                           -- `/ws`, not opened
    rcases wsOpen_spec heq with ⟨-, ⟨⟨x, -, ho⟩, -⟩ | ⟨-, hi⟩⟩
    · exact absurd ho (hno x.id)
    · exact ⟨fun hw => hi.trans (hs.count hw), hs.nodup⟩
  case case7 conn m hm ops =>                                     -- a socket ends
    refine ⟨fun hw => ?_, hs.nodup.sublist (List.filter_sublist.map _)⟩
    obtain ⟨hmem, rfl⟩ := (find_key hs.nodup).mp hm
    rw [rrun_closeOps_inUse, if_pos hw, hs.count hw]
    exact (length_filter_conn_ne hs.nodup hmem).symm
  case case9 sid kicked ops =>                                    -- the timer closes the sockets it kicks
    refine ⟨fun hw => ?_, hs.nodup.sublist (List.filter_sublist.map _)⟩
    rw [rrun_append, rrun_flat_closeOps_inUse _ hw, kicked_split h.socks _ hs.nodup]
    exact congrArg (· - _) (hs.count hw)                          -- `closeSession` and `delete` leave the counter alone

/-- histories in which every `/ws` request carries a fresh connection id -/
def FreshRun : HSt → List Ev → Prop
  | _, [] => True
  | h, e :: es => freshConn h e ∧ FreshRun (handle h e).1 es

theorem srun_slots {h : HSt} (hs : Slots h) (es : List Ev) (hf : FreshRun h es) : Slots (srun h es) := by
  induction es generalizing h with
  | nil => exact hs
  | cons e es ih => exact ih (handle_slots hs hf.1) hf.2

/-- **concurrently open WebSocket connections never exceed `max-ws-connections`** -/
theorem C14_open_sockets_bounded (cfg : Cfg) (ttl : Nat) (es : List Ev) (hf : FreshRun (hinit cfg ttl) es)
    (hw : cfg.maxWS > 0) : (srun (hinit cfg ttl) es).socks.length ≤ cfg.maxWS := by
  have hr := srun_reachable cfg ttl es
  have hs := srun_slots (h := hinit cfg ttl) ⟨fun _ => rfl, List.nodup_nil⟩ es hf
  obtain ⟨-, -, hconn⟩ := C14_limits hr
  have hcap := hconn hw
  have hw' : (srun (hinit cfg ttl) es).st.cfg.maxWS > 0 := by rwa [reachable_cfg hr]
  rwa [hs.count hw'] at hcap

/-! ## the decision points of the source, as regenerated on this run (xlate, `Gen/Shapes.lean`)

The model's guards were transcribed from these expressions; a change of any of them in /repo changes the generated
text and breaks this theorem (the check then searches for a concrete failing input with the histories and bursts). -/

open TV.Gen.Shapes in
theorem C14_source_shapes :
    -- `Store.CreateLimited`: test and insertion under one lock; `Store.create`'s guard
    store_create_limit = ["max > 0 && len(s.sessions) >= max"] ∧
    -- lazy expiry in `GetByJoinCode`; `Sess.expired`
    store_expiry_test = ["!session.ExpiresAt.IsZero() && time.Now().After(session.ExpiresAt)"] ∧
    -- /session: the read-only pre-test and the deciding answer of CreateLimited
    handler_session_limit = ["limits.maxSessions > 0 && store.Count() >= limits.maxSessions", "!created"] ∧
    -- `mrCheck`
    handler_post_maxrecv = ["maxReceiversRaw != \"\" ; limits.maxReceiversPerSender > 0 && reqMax > limits.maxReceiversPerSender"] ∧
    handler_ws_maxrecv = ["role == \"sender\" && maxReceiversRaw != \"\" ; limits.maxReceiversPerSender > 0 && reqMax > limits.maxReceiversPerSender"] ∧
    -- receiver admission: before the upgrade and again under `receiverAdmitMu`; `rstep (.register m)`'s guard
    handler_receiver_limit =
      ["limits.maxReceiversPerSender > 0 && role == \"receiver\" ; countReceivers(hub.List(sess.ID)) >= limits.maxReceiversPerSender",
       "limits.maxReceiversPerSender > 0 && role == \"receiver\" ; countReceivers(hub.List(sess.ID)) >= limits.maxReceiversPerSender"] ∧
    -- connection slots: `wsAcquire` / `rstep .acquire`
    handler_conn_limit = ["limits.maxWSConnections > 0 ; !wsConnLimiter.Acquire()"] ∧
    connlimiter_acquire = ["l.limit > 0 && l.inUse >= l.limit"] ∧
    -- one slot taken per connection, given back exactly once, when the handler returns (`Slots`: slots in use = sockets open)
    handler_slot_acquire = ["limits.maxWSConnections > 0 ; !wsConnLimiter.Acquire()"] ∧
    handler_slot_release = ["defer wsConnLimiter.Release()"] ∧
    -- message size and rate: `msgAccepted`, `Bucket.allow`
    handler_msg_size = ["maxMessageSize > 0 && len(message) > maxMessageSize"] ∧
    handler_msg_rate = ["limits.msgRatePerSec > 0 && !msgLimiter.Allow()"] ∧
    bucket_allow = ["b.tokens < 1"] ∧
    handler_lookup_args = ["joinCode"] := ⟨rfl, rfl, rfl, rfl, rfl, rfl, rfl, rfl, rfl, rfl, rfl, rfl, rfl, rfl⟩

end TV.C14
