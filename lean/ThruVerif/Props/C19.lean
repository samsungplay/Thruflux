import ThruVerif.Proofs.GeometryBridge
/-!
# C19 — Chunk geometry tiles every file exactly and identically on both sides

All statements are about `TV.Gen.*`, the definitions regenerated from /repo's current source on every
run (go/ssa for `chunkTotal` / `chunkSizeForIndex`, go/ast + go/types for the expressions embedded in
`handleFileBegin`, the data reader, the sender worker, `CreateSidecar` and `hashFileChunk`), with every
Go integer conversion explicit.  Domain: `Dom size c` = size ≤ 10 TiB, 1 ≤ c < 2³², chunk count < 2³².
-/
namespace TV.C19
open TV.GeoBridge

/-- number of chunks the sender computes, as a natural number -/
def total (size c : Nat) : Nat := (TV.Gen.chunkTotal size c).toNat
/-- length of chunk `i` the sender reads -/
def len (size c i : Nat) : Nat := (TV.Gen.chunkSizeForIndex size c i).toNat
/-- offset at which the receiver writes chunk `i` -/
def off (c i : Nat) : Nat := (TV.Gen.recvOffset i c).toNat

theorem total_eq (size c : Nat) (h : Dom size c) : total size c = TV.Geo.chunkTotal size c := by
  rw [total, chunkTotal_bridge size c h, Int.toNat_natCast]

/-- indices below the total never overflow `int64(idx) * int64(chunk)` -/
theorem idx_ok (size c i : Nat) (h : Dom size c) (hi : i < TV.Geo.chunkTotal size c) :
    i < 2 ^ 32 ∧ i * c < 2 ^ 63 := by
  obtain ⟨hs, hc0, _, hn⟩ := h
  -- i < total < 2^32 by hn; an existing chunk starts inside the file: i * c < size ≤ 10 TiB < 2^63
  have : i * c < size := (TV.Geo.lt_chunkTotal hc0).1 hi
  omega

theorem len_eq (size c i : Nat) (h : Dom size c) (hi : i < TV.Geo.chunkTotal size c) :
    len size c i = TV.Geo.lenAt size c i := by
  obtain ⟨h1, h2⟩ := idx_ok size c i h hi
  rw [len, lenAt_bridge size c i h h1 h2, Int.toNat_natCast]

theorem off_eq (size c i : Nat) (h : Dom size c) (hi : i < TV.Geo.chunkTotal size c) :
    off c i = i * c := by
  obtain ⟨h1, h2⟩ := idx_ok size c i h hi
  rw [off, recvOffset_bridge i c h1 h.hc1 h2, Int.toNat_natCast]

/-- Contiguous, non-overlapping, each chunk non-empty and at most one chunk long, the
    last one ending exactly at the file size. -/
theorem C19_tiles (size c : Nat) (h : Dom size c) :
    ∀ i, i < total size c →
      0 < len size c i ∧ len size c i ≤ c ∧
      off c i + len size c i = (if i + 1 < total size c then off c (i + 1) else size) := by
  intro i hi
  rw [total_eq size c h] at hi ⊢
  rw [len_eq size c i h hi, off_eq size c i h hi]
  obtain ⟨hpos, hle, hend⟩ := TV.Geo.lenAt_spec size c i h.hc0 hi
  refine ⟨hpos, hle, hend.trans ?_⟩
  -- left: where there is a next chunk, the receiver's offset for it is (i + 1) * c too
  split
  · rename_i hn
    rw [off_eq size c (i + 1) h hn]
  · rfl

/-- The first chunk starts at offset 0. -/
theorem C19_first (c : Nat) (hc : c < 2 ^ 32) : off c 0 = 0 := by
  rw [off, recvOffset_bridge 0 c (by decide) hc (by omega), Int.toNat_natCast, Nat.zero_mul]

/-- Chunk lengths sum to the file size. -/
theorem C19_sum (size c : Nat) (h : Dom size c) :
    ((List.range (total size c)).map (len size c)).sum = size := by
  rw [total_eq size c h, List.map_congr_left fun i hi => len_eq size c i h (List.mem_range.mp hi)]
  exact TV.Geo.tiles size c h.hc0

/-- Past the last chunk there is nothing to send (as long as `idx*chunk` fits `int64`). -/
theorem C19_oob (size c i : Nat) (h : Dom size c) (hi : total size c ≤ i) (h32 : i < 2 ^ 32)
    (hp : i * c < 2 ^ 63) : len size c i = 0 := by
  rw [total_eq size c h] at hi
  rw [len, lenAt_bridge size c i h h32 hp, TV.Geo.lenAt_oob size c i h.hc0 hi]
  rfl

/-- Sender (`chunkTotal`), receiver (`handleFileBegin`) and resume metadata
    (`CreateSidecar`) compute the same number of chunks; sender read offset, receiver write offset and
    verification-hash offset coincide. -/
theorem C19_agree (size c : Nat) (h : Dom size c) :
    TV.Gen.recvTotal size c = TV.Gen.chunkTotal size c ∧
    TV.Gen.sidecarTotalRaw size c = TV.Gen.chunkTotal size c ∧
    (∀ i, i < total size c →
      TV.Gen.sendOffset i c = TV.Gen.recvOffset i c ∧ TV.Gen.hashOffset i c = TV.Gen.recvOffset i c) := by
  rw [chunkTotal_bridge size c h, total_eq size c h]
  refine ⟨recvTotal_bridge size c h, sidecarTotal_bridge size c h, fun i hi => ?_⟩
  obtain ⟨h1, h2⟩ := idx_ok size c i h hi
  rw [sendOffset_bridge i c h1 h.hc1 h2, recvOffset_bridge i c h1 h.hc1 h2, hashOffset_bridge i c h1 h.hc1 h2]
  exact ⟨rfl, rfl⟩

/-- On the domain none of the 64-bit intermediates overflows and the `uint32`
    conversion is exact: the generated expression equals plain ceiling division. -/
theorem C19_no_wrap (size c : Nat) (h : Dom size c) :
    TV.Gen.chunkTotal size c = ((if size = 0 then 0 else (size + c - 1) / c : Nat) : Int) := by
  rw [chunkTotal_bridge size c h, TV.Geo.chunkTotal, if_neg (Nat.ne_of_gt h.hc0)]

/-- the resume metadata records the computed total unchanged (single assignment in `CreateSidecar`) -/
theorem C19_sidecar_single_assignment : TV.Gen.sidecarTotal_assignments = 1 := by decide

-- non-vacuity: the domain is inhabited at its corners
example : Dom 0 1 := ⟨by decide, by decide, by decide, by decide⟩
example : Dom 1 1 := ⟨by decide, by decide, by decide, by decide⟩
example : Dom (2 ^ 32 - 1) 1 := ⟨by decide, by decide, by decide, by
  simp [TV.Geo.chunkTotal]⟩
example : Dom (10 * 2 ^ 40) (2 ^ 32 - 1) := ⟨by decide, by decide, by decide, by
  simp [TV.Geo.chunkTotal]⟩
example : total 10 4 = 3 ∧ len 10 4 2 = 2 ∧ off 4 2 = 8 := by decide


/-! ## stream ids of several connections are kept apart (`multiConn`) -/

open TV.GoInt in
/-- the regenerated `makeVirtualStreamID` is `connIndex * 2^56 + streamID` for the (at most 255) connections
`NewMultiConn` accepts and QUIC stream ids below 2^56 -/
theorem C19_virtual_id (c s : Nat) (hc : c < 256) (hs : s < 2 ^ 56) :
    TV.Gen.makeVirtualStreamID (c : Int) (s : Int) = ((c * 2 ^ 56 + s : Nat) : Int) := by
  have hm : (72057594037927935 : Int).toNat = 2 ^ 56 - 1 := rfl
  have h2 : goShl (c : Int) 56 = ((c * 2 ^ 56 : Nat) : Int) := by simp [goShl]
  unfold TV.Gen.makeVirtualStreamID
  -- both uint64(..) conversions are exact: c < 256, so c * 2^56 < 2^64 (the only use of hc)
  simp (disch := omega) only [wrapU_id, h2]
  -- `streamID & (2^56 - 1)` is `s` itself; `|` of a multiple of 2^56 with a number below 2^56 is `+`
  rw [goAnd, goOr, Int.toNat_natCast, Int.toNat_natCast, Int.toNat_natCast, hm, Nat.and_two_pow_sub_one_eq_mod,
    Nat.mod_eq_of_lt hs, ← Nat.shiftLeft_eq, ← Nat.shiftLeft_add_eq_or_of_lt hs]

/-- two streams get the same virtual id only if they are the same stream of the same connection: files keyed by
virtual stream ids never collide across connections -/
theorem C19_virtual_id_injective (c c' s s' : Nat) (hc : c < 256) (hc' : c' < 256) (hs : s < 2 ^ 56) (hs' : s' < 2 ^ 56)
    (h : TV.Gen.makeVirtualStreamID (c : Int) (s : Int) = TV.Gen.makeVirtualStreamID (c' : Int) (s' : Int)) :
    c = c' ∧ s = s' := by
  rw [C19_virtual_id c s hc hs, C19_virtual_id c' s' hc' hs'] at h
  -- c and s are quotient and remainder of the id by 2^56
  omega

end TV.C19
