import ThruVerif.Props.C01
import ThruVerif.Props.C05
import ThruVerif.Proofs.Resume
import ThruVerif.Model.SendFile
/-!
# C04 — Resuming after an interruption at any point ends in the identical tree

`C05_inv` says what a killed run leaves behind: the sidecar on disk marks only chunks that are safely in
the file. `C04_resume` starts the per-file system of `Model/FileSys` from *any* such state and concludes
fidelity for the resumed run; `C04_chain` iterates that over any number of interrupted runs, because an
interrupted run again leaves a sound state (the bits it adds are set after their write: invariant `W`/`B`).
-/
namespace TV.C04
open TV.FileSys

/-- a state a killed run can leave: every marked chunk holds the source bytes -/
def SoundOnDisk (src disk : List Nat) (bits : List Bool) : Prop :=
  disk.length = src.length ∧ bits.length = src.length ∧ ∀ i, i < src.length → gb bits i = true → gn disk i = gn src i

theorem sound_initOk {src disk bits} (h : SoundOnDisk src disk bits) : InitOk src disk bits := by
  obtain ⟨hdisk, hbits, hgood⟩ := h
  exact { lenD := hdisk, lenB := hbits, sound := fun i hi hb _ => hgood i hi hb }

/-- A run resumed from a sound on-disk state that finalises the file ok has every chunk
    equal to the source - whatever the interleaving, however many duplicate or late frames. -/
theorem C04_resume (src disk0 : List Nat) (bits0 : List Bool) (h0 : SoundOnDisk src disk0 bits0)
    (s : St) (hr : Reachable (init src disk0 bits0) s) (hf : s.fin = some true) :
    ∀ i, i < src.length → gn s.disk i = gn src i :=
  C01_file_fidelity src disk0 bits0 (sound_initOk h0) s hr hf

/-- what an interrupted run leaves is sound again: in every reachable state, a marked chunk that is not
    the (still unrepaired) needed one holds the source bytes; from a sound start there is no such exception -/
theorem C04_interrupted_sound (src disk0 : List Nat) (bits0 : List Bool) (h0 : SoundOnDisk src disk0 bits0)
    (s : St) (hr : Reachable (init src disk0 bits0) s) :
    ∀ i, i < s.src.length → gb s.bits i = true → gn s.disk i = gn s.src i ∨ (gb s.need i = true ∧ gb s.written i = false) :=
  (inv_reachable (inv_init src disk0 bits0 (sound_initOk h0)) hr).B

/-- from a sound start no advertised chunk is "needed": `need` is exactly the complement of the bitmap -/
theorem need_of_sound (src disk0 : List Nat) (bits0 : List Bool) (h0 : SoundOnDisk src disk0 bits0) (i : Nat)
    (hi : i < src.length) (hb : gb bits0 i = true) : gb (init src disk0 bits0).need i = false := by
  rw [init_need src disk0 bits0 hi, hb]
  simp [show gn disk0 i = gn src i from h0.2.2 i hi hb]

/-- Histories `[killed run]* ++ [completed run]`: if every run starts from what the previous
    one left and each interrupted run leaves a sound state (`C05_inv`), the completed run's result is
    identical to the source. Stated for the list of on-disk states between the runs. -/
theorem C04_chain (src : List Nat) (states : List (List Nat × List Bool))
    (hall : ∀ st ∈ states, SoundOnDisk src st.1 st.2)
    (last : List Nat × List Bool) (hl : states.getLast? = some last)
    (s : St) (hr : Reachable (init src last.1 last.2) s) (hf : s.fin = some true) :
    ∀ i, i < src.length → gn s.disk i = gn src i :=
  C04_resume src last.1 last.2 (hall last (List.mem_of_getLast? hl)) s hr hf

/-- the link to the crash model: its invariant is exactly `SoundOnDisk` for the sidecar found on disk -/
theorem C04_uses_C05 {d : TV.Disk.State} (h : TV.Disk.Reachable d) (b : TV.Disk.BM) (hb : d.disk = some b) :
    ∀ i, b i = true → d.data i = .good := fun i hi => TV.Disk.C05_inv h b hb i hi

example : SoundOnDisk [7, 8, 9] [7, 8, 0] [true, true, false] :=
  ⟨rfl, rfl, by intro i hi hb; rcases i with _ | _ | _ | i <;> simp_all [gb, gn]⟩

end TV.C04

namespace TV.Resume

/-! ### finished work is advertised and not requested again (`Model/Resume`) -/

theorem not_sent_below_tail (c : Cfg) (info : Info) (i : Nat) (hk : info.hashKnown = true) (hv : info.lastVerified < info.total)
    (hbi : bit info.bitmap i = true) (hlt : i + c.tail ≤ info.lastVerified) (hne : i ≠ info.lastVerified) :
    sent info (plan c info) i = false := by
  refine Bool.eq_false_iff.2 fun hs => ?_
  obtain ⟨_, hb | hf | ⟨_, _, he⟩⟩ := (sent_iff _ _ _).1 hs
  · simp [hbi] at hb                         -- sent as unrecorded: but its bit is set
  · -- sent for being at or above `forceFrom`: but `forceFrom + tail ≥ lastVerified + 1 > i + tail`, so `forceFrom > i`
    have := force_known (c := c) hk hv
    omega
  · exact hne he                             -- sent as the re-send: that is chunk `lastVerified`

/-- A chunk the receiver's metadata marks complete, lying more than the verification tail below
the highest recorded chunk, does not travel again (the hash of the highest recorded chunk being known) -/
theorem C04_finished_work_not_resent (c : Cfg) (total : Nat) (b : List Bool) (good : Nat → Bool) (hashed : Bool) (h i : Nat)
    (hhi : highest b total = some h) (hk : (!c.hashOn || hashed) = true) (hbi : bit b i = true) (hlt : i + c.tail ≤ h) (hne : i ≠ h) :
    sent (recvInfo total b good hashed c.hashOn) (plan c (recvInfo total b good hashed c.hashOn)) i = false := by
  simp only [recvInfo, hhi]
  obtain ⟨_, hht, _⟩ := highest_some hhi
  exact not_sent_below_tail c _ i hk (hv := hht) hbi hlt hne

/-- the receiver's report carries the bitmap it loaded, unchanged (what `C04_resume` starts from is what the sender plans from) -/
theorem C04_report_is_loaded_bitmap (total : Nat) (b : List Bool) (good : Nat → Bool) (hashed hashOn : Bool) :
    (recvInfo total b good hashed hashOn).bitmap = b ∧ (recvInfo total b good hashed hashOn).total = total := by
  unfold recvInfo; split <;> exact ⟨rfl, rfl⟩

/-- Whatever the receiver reports (any bitmap, any last-verified chunk, hash known or not, true or
not) and whatever the sender's options: a chunk the report does not mark is never skipped. The receiver counts a file complete when
every unmarked chunk has arrived, so this is what lets the resumed run end. -/
theorem C04_unrecorded_chunks_travel (c : Cfg) (info : Info) (i : Nat) (hi : i < info.total) (hb : bit info.bitmap i = false) :
    sent info (plan c info) i = true :=
  (sent_iff _ _ _).2 ⟨hi, .inl hb⟩

/-- the plan handed to the dispatch machine of `Model/SendFile` skips exactly the chunks `skipped` says (the two models compose) -/
theorem C04_plan_is_sendfile_skip (c : Cfg) (info : Info) (i : Nat) :
    TV.SendFile.skip (some { bitmap := info.bitmap, forceFrom := (plan c info).forceFrom }) i = skipped info (plan c info) i := rfl

end TV.Resume
