import ThruVerif.Model.Url
import ThruVerif.Gen.Shapes
/-!
# C16 — Clients work against every documented server configuration

* `unescape_escape`: `unescape m (escape m s) = some s` for every byte string, in both escaping modes.
* `C16_ws`: for every join code, peer id and role (arbitrary bytes, including `& = ; % + # ? /` and non-UTF-8) and every
  `max_receivers`, the server's `Query().Get` on the query `buildWebSocketURL` assembles returns exactly those three strings.
* `C16_turn`: for every user and secret (arbitrary bytes; the server's user is `expiry:peerID`), every TURN entry
  `turn|turns`, `host:port`, optional query: the client's parse of the URL the server mints returns the same scheme, user,
  secret, `host:port` and query.
* `C16_session`: for every `--session-timeout` (0 included) the client decodes the `/session` response and gets the
  server's id and code; the expiry is absent exactly when the timeout is 0.
-/
namespace TV.Url

/-! ### bytes -/

theorem hexUpper_spec {n : UInt8} (h : n < 16) : unhex (hexUpper n) = some n ∧ isUnreserved (hexUpper n) = true := by
  have : ∀ k, k < 16 → unhex (hexUpper (.ofNat k)) = some (.ofNat k) ∧ isUnreserved (hexUpper (.ofNat k)) = true := by decide
  simpa using this n.toNat (UInt8.lt_iff_toNat_lt.1 h)

theorem hi_lt (c : UInt8) : c >>> 4 < 16 := by
  have := c.toNat_lt
  rw [UInt8.lt_iff_toNat_lt, UInt8.toNat_shiftRight, Nat.shiftRight_eq_div_pow]
  change c.toNat / 16 < 16
  omega

theorem lo_lt (c : UInt8) : c &&& 15 < 16 := UInt8.lt_of_le_of_lt UInt8.and_le_right (by decide)

theorem nibbles_join (c : UInt8) : (c >>> 4) <<< 4 ||| (c &&& 15) = c := by
  apply UInt8.eq_of_toBitVec_eq
  -- shifting right and back masks with `0xf0`, and `0xf0 ||| 0x0f` is all ones (by evaluation, inside the last `exact`)
  show c.toBitVec >>> 4 <<< 4 ||| c.toBitVec &&& 15#8 = c.toBitVec
  rw [BitVec.shiftLeft_ushiftRight, ← BitVec.and_or_distrib_left]
  exact BitVec.and_allOnes

theorem shouldEscape_unreserved {m c} (h : isUnreserved c = true) : shouldEscape m c = false := by
  simp [shouldEscape, h]

theorem escChar_cases (m : Mode) (c : UInt8) :
    (c = 0x20 ∧ m = .query ∧ escChar m c = [0x2b]) ∨
    escChar m c = [0x25, hexUpper (c >>> 4), hexUpper (c &&& 15)] ∨
    (shouldEscape m c = false ∧ escChar m c = [c]) := by
  unfold escChar
  split
  · rename_i h
    rw [Bool.and_eq_true, beq_iff_eq, beq_iff_eq] at h
    exact .inl ⟨h.1, h.2, rfl⟩
  · split
    · exact .inr (.inl rfl)
    · exact .inr (.inr ⟨Bool.eq_false_iff.2 ‹_›, rfl⟩)

theorem mem_escape {m : Mode} {s : Bytes} {x : UInt8} (h : x ∈ escape m s) :
    shouldEscape m x = false ∨ x = 0x25 ∨ x = 0x2b := by
  induction s with
  | nil => cases h
  | cons c cs ih =>
    rcases List.mem_append.1 h with h | h
    · have hex := fun {n} (hn : n < 16) => shouldEscape_unreserved (m := m) (hexUpper_spec hn).2
      rcases escChar_cases m c with ⟨_, _, e⟩ | e | ⟨hc, e⟩ <;> rw [e] at h <;> simp at h
      · exact .inr (.inr h)
      · rcases h with rfl | rfl | rfl
        · exact .inr (.inl rfl)
        · exact .inl (hex (hi_lt c))
        · exact .inl (hex (lo_lt c))
      · exact .inl (h ▸ hc)
    · exact ih h

/-! ### round trip -/

theorem unescape_keep (m : Mode) (c : UInt8) (cs : Bytes) (hc : (c == 0x25) = false) :
    unescape m (c :: cs) = (unescape m cs).map ((if c == 0x2b && m == .query then 0x20 else c) :: ·) := by
  rw [unescape.eq_def]
  simp only [hc, Bool.false_eq_true, ↓reduceIte]
  cases unescape m cs <;> simp

theorem unescape_pct (m : Mode) (a b x y : UInt8) (rest : Bytes) (ha : unhex a = some x) (hb : unhex b = some y) :
    unescape m (0x25 :: a :: b :: rest) = (unescape m rest).map ((x <<< 4 ||| y) :: ·) := by
  rw [unescape.eq_def]
  simp only [beq_self_eq_true, ↓reduceIte, ha, hb]
  cases unescape m rest <;> simp

theorem unescape_escChar (m : Mode) (c : UInt8) (rest : Bytes) :
    unescape m (escChar m c ++ rest) = (unescape m rest).map (c :: ·) := by
  rcases escChar_cases m c with ⟨rfl, rfl, e⟩ | e | ⟨hc, e⟩ <;> rw [e]
  · exact unescape_keep _ _ _ (by decide)
  · exact (unescape_pct m _ _ _ _ rest (hexUpper_spec (hi_lt c)).1 (hexUpper_spec (lo_lt c)).1).trans (by rw [nibbles_join])
  · -- a byte kept as it is is neither `%` nor, in a query, `+`: both are escaped
    have h25 : c ≠ 0x25 := by rintro rfl; cases m <;> exact absurd hc (by decide)
    rw [List.singleton_append, unescape_keep m c rest (beq_eq_false_iff_ne.2 h25), if_neg]
    intro h
    rw [Bool.and_eq_true, beq_iff_eq, beq_iff_eq] at h
    obtain ⟨rfl, rfl⟩ := h
    exact absurd hc (by decide)

theorem unescape_escape (m : Mode) (s : Bytes) : unescape m (escape m s) = some s := by
  induction s with
  | nil => rfl
  | cons c cs ih => simp [escape, unescape_escChar, ih]

/-! ### cutting -/

def NoByte (p : UInt8 → Bool) (l : Bytes) : Prop := ∀ c ∈ l, p c = false

theorem NoByte.nil {p} : NoByte p [] := by intro c hc; cases hc

theorem NoByte.append {p a b} (ha : NoByte p a) (hb : NoByte p b) : NoByte p (a ++ b) := List.forall_mem_append.2 ⟨ha, hb⟩

theorem NoByte.cons {p c l} (hc : p c = false) (hl : NoByte p l) : NoByte p (c :: l) := List.forall_mem_cons.2 ⟨hc, hl⟩

/-- The hypothesis is one Boolean so that `decide` closes it for a given `b`. -/
theorem escape_noByte (m : Mode) (b : UInt8) (hb : (shouldEscape m b && b != 0x25 && b != 0x2b) = true) (s : Bytes) :
    NoByte (· == b) (escape m s) := by
  simp only [Bool.and_eq_true, bne_iff_ne] at hb
  obtain ⟨⟨hesc, h25⟩, h2b⟩ : (shouldEscape m b = true ∧ b ≠ 0x25) ∧ b ≠ 0x2b := hb
  intro c hc
  rw [beq_eq_false_iff_ne]
  rintro rfl
  rcases mem_escape hc with h | h | h
  · rw [hesc] at h; cases h
  · exact h25 h
  · exact h2b h

theorem pair_noByte (m : Mode) (sep b : UInt8) (hb : (shouldEscape m b && b != 0x25 && b != 0x2b) = true)
    (hs : (sep == b) = false) (x y : Bytes) : NoByte (· == b) (escape m x ++ sep :: escape m y) :=
  (escape_noByte m b hb x).append (.cons hs (escape_noByte m b hb y))

theorem cutFirst_append {p : UInt8 → Bool} {a : Bytes} (ha : NoByte p a) (b : Bytes) :
    cutFirst p (a ++ b) = (a ++ (cutFirst p b).1, (cutFirst p b).2) := by
  induction a with
  | nil => rfl
  | cons c cs ih => rw [NoByte, List.forall_mem_cons] at ha; simp [cutFirst, ha.1, ih ha.2]

theorem cutFirst_none {p : UInt8 → Bool} {l : Bytes} (h : NoByte p l) : cutFirst p l = (l, none) := by
  simpa [cutFirst] using cutFirst_append h []

theorem cutFirst_hit {p : UInt8 → Bool} {a : Bytes} {s : UInt8} {r : Bytes} (ha : NoByte p a) (hs : p s = true) :
    cutFirst p (a ++ s :: r) = (a, some r) := by
  simp [cutFirst_append ha, cutFirst, hs]

theorem cutLast_hit {p : UInt8 → Bool} {a : Bytes} {s : UInt8} {r : Bytes} (hr : NoByte p r) (hs : p s = true) :
    cutLast p (a ++ s :: r) = (some a, r) := by
  have hr' : NoByte p r.reverse := fun c hc => hr c (List.mem_reverse.1 hc)
  simp [cutLast, cutFirst_hit hr' hs]

theorem splitOn_ne_nil (sep : UInt8) (l : Bytes) : splitOn sep l ≠ [] := by
  cases l with
  | nil => simp [splitOn]
  | cons c cs =>
    simp only [splitOn]
    split
    · simp
    · split <;> simp

theorem splitOn_none {sep : UInt8} {l : Bytes} (h : NoByte (· == sep) l) : splitOn sep l = [l] := by
  induction l with
  | nil => rfl
  | cons c cs ih => rw [NoByte, List.forall_mem_cons] at h; simp [splitOn, ih h.2, h.1]

theorem splitOn_hit {sep : UInt8} {a r : Bytes} (ha : NoByte (· == sep) a) :
    splitOn sep (a ++ sep :: r) = a :: splitOn sep r := by
  induction a with
  | nil =>
    simp only [List.nil_append, splitOn]
    cases hsr : splitOn sep r with
    | nil => exact absurd hsr (splitOn_ne_nil sep r)
    | cons p ps => simp
  | cons c cs ih => rw [NoByte, List.forall_mem_cons] at ha; simp [splitOn, ih ha.2, ha.1]

/-! ### the WebSocket query -/

theorem parsePair_field (k v : Bytes) : parsePair (escape .query k ++ 0x3d :: escape .query v) = some (k, v) := by
  have semi : (escape .query k ++ 0x3d :: escape .query v).contains 0x3b = false := by
    rw [← Bool.not_eq_true, List.contains_iff_mem]
    exact fun h => absurd (pair_noByte .query 0x3d 0x3b (by decide) (by decide) k v _ h) (by decide)
  unfold parsePair
  rw [semi, cutFirst_hit (escape_noByte .query 0x3d (by decide) k) (by decide)]
  simp [unescape_escape]

theorem queryGet_field {k : Bytes} (hk : escape .query k = k) (v rest key : Bytes) :
    queryGet (k ++ 0x3d :: (escape .query v ++ 0x26 :: rest)) key = if k == key then v else queryGet rest key := by
  have hs := splitOn_hit (r := rest) (pair_noByte .query 0x3d 0x26 (by decide) (by decide) k v)
  have hp := parsePair_field k v
  rw [hk, List.append_assoc, List.cons_append] at hs
  rw [hk] at hp
  simp only [queryGet, hs, List.filterMap_cons, hp, List.find?_cons]
  cases k == key <;> rfl

theorem queryGet_last {k : Bytes} (hk : escape .query k = k) (v key : Bytes) :
    queryGet (k ++ 0x3d :: escape .query v) key = if k == key then v else [] := by
  have hs := splitOn_none (pair_noByte .query 0x3d 0x26 (by decide) (by decide) k v)
  have hp := parsePair_field k v
  rw [hk] at hs hp
  simp only [queryGet, hs, List.filterMap_cons, hp, List.find?_cons, List.filterMap_nil, List.find?_nil]
  cases k == key <;> rfl

/-- the server reads back exactly what the client put into the WebSocket URL -/
theorem C16_ws (code peer role : Bytes) (maxReceivers : Nat) :
    queryGet (wsQuery code peer role maxReceivers) kJoinCode = code ∧
    queryGet (wsQuery code peer role maxReceivers) kPeerID = peer ∧
    queryGet (wsQuery code peer role maxReceivers) kRole = role := by
  have j : escape .query kJoinCode = kJoinCode := by decide
  have p : escape .query kPeerID = kPeerID := by decide
  have r : escape .query kRole = kRole := by decide
  have k12 : (kJoinCode == kPeerID) = false := by decide
  have k13 : (kJoinCode == kRole) = false := by decide
  have k23 : (kPeerID == kRole) = false := by decide
  simp only [wsQuery, List.append_assoc, List.cons_append, List.nil_append]
  -- the `max_receivers` tail, present or not (`split`), is never reached: `role` is found first
  split <;>
    simp [queryGet_field j, queryGet_field p, queryGet_field r, queryGet_last r, k12, k13, k23]

/-! ### TURN credentials -/

def hostOK (h : Bytes) : Prop :=
  NoByte (· == 0x40) h ∧ NoByte (· == 0x2f) h ∧ NoByte (· == 0x3f) h ∧ NoByte (· == 0x23) h

theorem scheme_noColon (t : TurnSpec) : NoByte (· == 0x3a) (scheme t) := by
  unfold NoByte scheme; split <;> decide

/-- the client parses the URL minted by the server back into the same scheme, user, secret, endpoint and options -/
theorem C16_turn (t : TurnSpec) (user pass : Bytes) (hh : hostOK t.hostPort) (hq : NoByte (· == 0x23) t.query) :
    parseTurn (inject t user pass) = some ⟨scheme t, user, pass, t.hostPort, t.query⟩ := by
  obtain ⟨hat, hsl, hqm, hfr⟩ := hh
  let auth := (escape .userPassword user ++ 0x3a :: escape .userPassword pass) ++ 0x40 :: t.hostPort
  let tail : Bytes := if t.query.isEmpty then [] else 0x3f :: t.query
  have hinj : inject t user pass = scheme t ++ 0x3a :: 0x2f :: 0x2f :: (auth ++ tail) := by
    simp only [inject, sep3, auth, tail, List.append_assoc, List.cons_append, List.nil_append]
  -- where the authority ends is decided by `/ ? #`; the user-info has none of them, however `user` and `pass` look
  have a2f : NoByte (· == 0x2f) auth := (pair_noByte .userPassword 0x3a 0x2f (by decide) (by decide) user pass).append (.cons (by decide) hsl)
  have a3f : NoByte (· == 0x3f) auth := (pair_noByte .userPassword 0x3a 0x3f (by decide) (by decide) user pass).append (.cons (by decide) hqm)
  have a23 : NoByte (· == 0x23) auth := (pair_noByte .userPassword 0x3a 0x23 (by decide) (by decide) user pass).append (.cons (by decide) hfr)
  have t23 : NoByte (· == 0x23) tail := by
    dsimp only [tail]; split
    · exact .nil
    · exact .cons (by decide) hq
  have tq : (cutFirst (· == 0x3f) tail).1 = [] ∧ (cutFirst (· == 0x3f) tail).2.getD [] = t.query := by
    dsimp only [tail]; cases t.query <;> exact ⟨rfl, rfl⟩
  -- user and secret are cut at the first `:`; the escaped user has none
  have hup := cutFirst_hit (r := escape .userPassword pass) (escape_noByte .userPassword 0x3a (by decide) user)
    (by decide : ((0x3a : UInt8) == 0x3a) = true)
  unfold parseTurn
  rw [hinj, cutFirst_hit (scheme_noColon t) (by decide)]
  simp only []  -- reduces the `let`s and the `match` on `//`
  -- in the order of `parseTurn`: no `#`; first `?`; no `/` in the authority; last `@`
  rw [cutFirst_none (a23.append t23), cutFirst_append a3f, tq.1, List.append_nil, cutFirst_none a2f, cutLast_hit hat (by decide)]
  simp only [hup, unescape_escape, Option.getD_some, tq.2]

/-- the URL the server mints carries the scheme the operator configured (turn / turns), whatever user and secret are -/
example : parseTurn (inject ⟨true, "h.example:5349".toUTF8.toList, "transport=tcp".toUTF8.toList⟩ "17:a@b/c?d:e".toUTF8.toList "p/w=".toUTF8.toList)
    = some ⟨sTurns, "17:a@b/c?d:e".toUTF8.toList, "p/w=".toUTF8.toList, "h.example:5349".toUTF8.toList, "transport=tcp".toUTF8.toList⟩ := by
  decide +kernel

/-! ### POST /session -/

theorem C16_session (id code : Bytes) (now ttl : Nat) :
    clientDecode (sessionResponse id code now ttl) = some (id, code, if ttl > 0 then some (now + ttl) else none) := rfl

theorem C16_ws_scheme : wsScheme [0x68, 0x74, 0x74, 0x70] = [0x77, 0x73] ∧ wsScheme [0x68, 0x74, 0x74, 0x70, 0x73] = [0x77, 0x73, 0x73] := by
  decide

open TV.Gen.Shapes in
/-- both clients keep of a `turn_credentials` envelope exactly the list the server issued: the handler passes `creds.Servers`,
`setTurnServersIfEmpty` stores a copy of its parameter and never rewrites it (no splitting, trimming or filtering between the minted
URL and `parseTurnServer`, which `C16_turn` is about) -/
theorem C16_source_turn_intake :
    sender_turn_intake_args = ["creds.Servers"] ∧ receiver_turn_intake_args = ["creds.Servers"] ∧
    sender_turn_keep = ["append([]string{}, servers...)"] ∧ receiver_turn_keep = ["append([]string{}, servers...)"] ∧
    sender_turn_rewrite = [] ∧ receiver_turn_rewrite = [] := ⟨rfl, rfl, rfl, rfl, rfl, rfl⟩

end TV.Url
