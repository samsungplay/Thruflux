import ThruVerif.Model.Scan
/-!
# C13 — The manifest describes exactly what will be read, once, deterministically

* `C13_names_distinct`: the top-level names `TopLevelNames` assigns to the selected paths are pairwise
  distinct for every list of base names - including names that look like the tool's own ordinal prefixes.
* `C13_sorted`: the item list is sorted by relative path.
* `C13_counts`: the counts and the byte total are the counts and the sum over the listed items.
* `C13_only_plain`: links, devices, sockets and pipes below a selected directory are never listed, so every
  listed file is a regular file whose `lstat` size is what reading it yields.
* `C13_resolver`: the sender's resolver maps a listed path back to the selection it came from.
-/
namespace TV.C13
open TV TV.Scan

theorem pick_spec {used : List Bytes} {b : Bytes} {fuel ord o : Nat} (h : pick used b fuel ord = some o) :
    ord < o ∧ (cand o b) ∉ used := by
  induction fuel generalizing ord with
  | zero => cases h
  | succ f ih =>
    simp only [pick] at h
    split at h
    · -- the candidate `ord + 1` is taken: the search goes on above it
      obtain ⟨hlt, hfree⟩ := ih h
      exact ⟨by omega, hfree⟩
    · rename_i hc
      cases h
      exact ⟨by omega, by simpa using hc⟩

theorem countOf_eq_count (b : Bytes) (l : List Bytes) : countOf b l = l.count b := List.count_eq_length_filter.symm

/-- The names `assign` hands out are pairwise distinct, and each is new (not in `used`) unless it is one of the base names of `rest`
that occur once. For that, `used` must hold those base names, and `rest` none of them twice. -/
theorem assign_nodup (all : List Bytes) : ∀ (rest used : List Bytes) (next : List (Bytes × Nat)) (ns : List Bytes),
    assign all rest used next = some ns →
    rest.filter (countOf · all = 1) ⊆ used → (rest.filter (countOf · all = 1)).Nodup →
    ns.Nodup ∧ ∀ n ∈ ns, n ∈ used → n ∈ rest.filter (countOf · all = 1)
  | [], _, _, ns, h, _, _ => by cases h; simp
  | b :: rest, used, next, ns, h, hu, hs => by
    simp only [assign] at h
    split at h
    · -- b occurs once in all: it keeps its name. It is in used, so a second b among ns' would (by hall) be a
      -- once-only name of rest, against hbn.
      rename_i hsingle
      obtain ⟨ns', hr, rfl⟩ := Option.map_eq_some_iff.1 h
      rw [List.filter_cons, if_pos (decide_eq_true hsingle)] at hu hs ⊢
      obtain ⟨hub, hu⟩ := List.cons_subset.1 hu
      obtain ⟨hbn, hs⟩ := List.nodup_cons.1 hs
      obtain ⟨hnd, hall⟩ := assign_nodup all rest used next ns' hr hu hs
      refine ⟨List.nodup_cons.2 ⟨fun hm => hbn (hall b hm hub), hnd⟩, fun n hn hnu => ?_⟩
      rcases List.mem_cons.1 hn with rfl | hn
      · exact .head _
      · exact .tail _ (hall n hn hnu)
    · -- b is repeated: it becomes cand ord b, which pick found outside used (hcu). A second cand ord b among ns'
      -- would, being in the extended used, be a once-only name of rest, hence already in the old used.
      rename_i hdup
      split at h
      · cases h
      · rename_i ord hp
        have hcu : cand ord b ∉ used := (pick_spec hp).2
        obtain ⟨ns', hr, rfl⟩ := Option.map_eq_some_iff.1 h
        rw [List.filter_cons, if_neg (mt of_decide_eq_true hdup)] at hu hs ⊢
        obtain ⟨hnd, hall⟩ := assign_nodup all rest (cand ord b :: used) ((b, ord) :: next) ns' hr
          (List.subset_cons_of_subset _ hu) hs
        refine ⟨List.nodup_cons.2 ⟨fun hm => hcu (hu (hall _ hm (.head _))), hnd⟩, fun n hn hnu => ?_⟩
        rcases List.mem_cons.1 hn with rfl | hn
        · exact absurd hnu hcu
        · exact hall n hn (.tail _ hnu)

theorem singles_nodup (all : List Bytes) : (singles all).Nodup := by
  rw [List.nodup_iff_count]
  intro b
  by_cases hb : countOf b all = 1
  · rw [singles, List.count_filter (by simpa using hb), ← countOf_eq_count, hb]; exact Nat.le_refl 1
  · rw [List.count_eq_zero.2 (fun h => hb (by simpa using (List.mem_filter.1 h).2))]; exact Nat.zero_le 1

/-- Whatever the selected paths are called - repeated base names, names shaped like
    `1_x`, any mixture - the top-level names are pairwise distinct (and there is one per selection). -/
theorem C13_names_distinct (bases ns : List Bytes) (h : topNames bases = some ns) : ns.Nodup :=
  (assign_nodup bases bases (singles bases) [] ns h (List.Subset.refl _) (singles_nodup bases)).1

/-- the P12 selection `[x, x, 1_x]` now gets three different names -/
example : topNames [[120], [120], [49, 95, 120]] = some [[50, 95, 120], [51, 95, 120], [49, 95, 120]] := by decide
example : topNames [[120], [120]] = some [[49, 95, 120], [50, 95, 120]] := by decide

/-! ### sortedness and counts -/

def Sorted : List Item → Prop
  | [] => True
  | [_] => True
  | a :: b :: rest => bytesLt b.rel a.rel = false ∧ Sorted (b :: rest)

theorem bytesLt_asymm : ∀ {a b : Bytes}, bytesLt a b = true → bytesLt b a = false
  | [], [], _ => rfl
  | [], _ :: _, _ => rfl
  | _ :: _, [], h => by cases h
  | x :: xs, y :: ys, h => by
    simp only [bytesLt] at h ⊢
    split at h
    · rename_i hxy
      rw [if_neg (UInt8.lt_asymm hxy), if_pos hxy]
    · split at h
      · cases h
      · rename_i hxy hyx
        rw [if_neg hyx, if_neg hxy]
        exact bytesLt_asymm h

theorem sorted_cons {a : Item} {l : List Item} :
    Sorted (a :: l) ↔ (∀ b ∈ l.head?, bytesLt b.rel a.rel = false) ∧ Sorted l := by
  cases l <;> simp [Sorted]

theorem insertItem_head (x : Item) (l : List Item) :
    (insertItem x l).head? = some x ∨ (insertItem x l).head? = l.head? := by
  cases l with
  | nil => exact .inl rfl
  | cons y ys => simp only [insertItem]; split <;> simp

theorem insert_sorted (x : Item) (l : List Item) (h : Sorted l) : Sorted (insertItem x l) := by
  induction l with
  | nil => trivial
  | cons y ys ih =>
    simp only [insertItem]
    split
    · -- `y` stays in front of what `x` is inserted into, which begins with `x` or as before
      rename_i hyx
      rw [sorted_cons] at h ⊢
      refine ⟨fun b hb => ?_, ih h.2⟩
      rcases insertItem_head x ys with e | e <;> rw [e] at hb
      · cases hb; exact bytesLt_asymm hyx
      · exact h.1 b hb
    · rename_i hyx
      exact ⟨by simpa using hyx, h⟩

/-- The item list is sorted by relative path (bytewise). -/
theorem C13_sorted (xs : List Item) : Sorted (sortItems xs) := by
  induction xs with
  | nil => trivial
  | cons x xs ih => exact insert_sorted x _ ih

theorem files_add_folders (l : List Item) : (l.filter (!·.isDir)).length + (l.filter (·.isDir)).length = l.length := by
  have := List.length_eq_countP_add_countP (·.isDir) (l := l)
  simp only [List.countP_eq_length_filter] at this
  simpa [Nat.add_comm] using this.symm

/-- Counts and totals are those of the listed items. -/
theorem C13_counts (table : List Entry) (sels : List Sel) (m : Manifest) (h : scanPaths table sels = some m) :
    m.fileCount = (m.items.filter (!·.isDir)).length ∧ m.folderCount = (m.items.filter (·.isDir)).length ∧
    m.totalBytes = ((m.items.filter (!·.isDir)).map (·.size)).sum ∧ m.fileCount + m.folderCount = m.items.length := by
  unfold scanPaths at h
  split at h
  · cases h
  · cases h
    exact ⟨rfl, rfl, rfl, files_add_folders _⟩

/-! ### what is listed -/

theorem mem_itemsOf_dir {table : List Entry} {name : Bytes} {s : Sel} {mt : Nat} (hs : s.top = .dir mt true) {it : Item} :
    it ∈ itemsOf table name s ↔ it = ⟨name, 0, mt, true⟩ ∨
      ∃ e ∈ table, ∃ suffix, isStrictPrefix s.abs e.path = some suffix ∧
        ((∃ size m, e.kind = .file size m ∧ it = ⟨name ++ 47 :: joinSlash suffix, size, m, false⟩) ∨
         (∃ m, e.kind = .dir m ∧ it = ⟨name ++ 47 :: joinSlash suffix, 0, m, true⟩)) := by
  simp only [itemsOf, hs, if_true, List.mem_cons, List.mem_filterMap]
  refine or_congr_right (exists_congr fun e => and_congr_right fun _ => ?_)
  cases isStrictPrefix s.abs e.path with
  | none => simp
  | some suffix => cases e.kind <;> simp [eq_comm (a := it), and_assoc]

/-- Below a selected directory only regular files and directories are listed: an item
    produced from a table entry is a file with that entry's size or a directory - never a link or device. -/
theorem C13_only_plain (table : List Entry) (name : Bytes) (s : Sel) (it : Item) (h : it ∈ itemsOf table name s) :
    it.rel = name ∨ ∃ e ∈ table, (e.kind = .file it.size it.mtime ∧ it.isDir = false) ∨ (e.kind = .dir it.mtime ∧ it.isDir = true ∧ it.size = 0) := by
  cases hs : s.top with
  | missing => simp [itemsOf, hs] at h
  | file size mtime => simp [itemsOf, hs] at h; exact .inl (h ▸ rfl)
  | dir mt walkable =>
    cases walkable with
    | false => simp [itemsOf, hs] at h; exact .inl (h ▸ rfl)
    | true =>
      rcases (mem_itemsOf_dir hs).1 h with rfl | ⟨e, he, _, _, ⟨_, _, hk, rfl⟩ | ⟨_, hk, rfl⟩⟩
      · exact .inl rfl
      · exact .inr ⟨e, he, .inl ⟨hk, rfl⟩⟩
      · exact .inr ⟨e, he, .inr ⟨hk, rfl, rfl⟩⟩

/-- Everything beneath a selected directory is listed for it: each regular file and each directory of the path
    table that lies strictly below the selection's (physical) path appears under the selection's manifest name with its own size -
    whatever else is selected, however the names collide. (A selected link to a directory is given by the harness with the physical
    path of its target: since repo fix for C13 the scan walks it; before, `walkable = false` listed such a directory as empty.) -/
theorem C13_complete (table : List Entry) (name : Bytes) (s : Sel) (mt : Nat) (hs : s.top = .dir mt true)
    (e : Entry) (he : e ∈ table) (suffix : List Bytes) (hp : isStrictPrefix s.abs e.path = some suffix) :
    (∀ size m, e.kind = .file size m → (⟨name ++ 47 :: joinSlash suffix, size, m, false⟩ : Item) ∈ itemsOf table name s) ∧
    (∀ m, e.kind = .dir m → (⟨name ++ 47 :: joinSlash suffix, 0, m, true⟩ : Item) ∈ itemsOf table name s) :=
  ⟨fun size m hk => (mem_itemsOf_dir hs).2 (.inr ⟨e, he, suffix, hp, .inl ⟨size, m, hk, rfl⟩⟩),
   fun m hk => (mem_itemsOf_dir hs).2 (.inr ⟨e, he, suffix, hp, .inr ⟨m, hk, rfl⟩⟩)⟩

/-- the scan as it was for a selected link to a directory (`walkable = false`): the directory itself and nothing beneath it -/
theorem C13_complete_refuted_before_fix (table : List Entry) (name : Bytes) (s : Sel) (mt : Nat) (hs : s.top = .dir mt false) :
    itemsOf table name s = [⟨name, 0, mt, true⟩] := by
  simp [itemsOf, hs]

/-- premises satisfiable -/
example : (⟨[100, 47, 102], 3, 7, false⟩ : Item) ∈
    itemsOf [⟨[[112], [102]], .file 3 7⟩] [100] ⟨[100], [[112]], .dir 1 true⟩ := by decide

/-- A manifest path `name/suffix` resolves to the selection that was given that name. -/
theorem C13_resolver (names : List Bytes) (sels : List Sel) (k : Nat) (n : Bytes) (s : Sel)
    (hn : names.Nodup) (hk1 : names[k]? = some n) (hk2 : sels[k]? = some s) :
    (names.zip sels).find? (fun (p : Bytes × Sel) => p.1 == n) = some (n, s) := by
  induction names generalizing sels k with
  | nil => simp at hk1
  | cons a as ih =>
    cases sels with
    | nil => simp at hk2
    | cons t ts =>
      rw [List.zip_cons_cons]
      cases k with
      | zero =>
        cases hk1; cases hk2
        exact List.find?_cons_of_pos (beq_self_eq_true _)
      | succ k =>
        -- `n` stands further down, so it is not the first name
        rw [List.getElem?_cons_succ] at hk1 hk2
        rw [List.nodup_cons] at hn
        have : ¬ (a == n) = true := fun e => hn.1 (beq_iff_eq.1 e ▸ List.mem_of_getElem? hk1)
        exact (List.find?_cons_of_neg (p := fun p : Bytes × Sel => p.1 == n) this).trans (ih ts k hn.2 hk1 hk2)

end TV.C13
