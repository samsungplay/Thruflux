import ThruVerif.Model.Routing
import ThruVerif.Proofs.Step
import ThruVerif.Gen.Shapes
import Mathlib.Data.List.Nodup
/-!
# C10 — Signaling messages stay inside their session and carry the true sender

`Inv` (who may hold what) and `Fifo` (order) are inductive invariants of the routing transition system: they hold in
every reachable state, for every interleaving of joins, leaves, reconnects with duplicate peer ids, session closes,
server broadcasts, client messages of any content, per-target broadcast steps and writer deliveries.

Both proofs invert `step` by its equations (`step_join` … `step_deliver`, one per action but `sys`, which has no guard)
and then apply one lemma per kind of change of the state (`Inv.unregister` … `Inv.pend_shrink`; `Fifo.mono`,
`Fifo.trySend`, `Fifo.pend_append`).
-/
namespace TV.C10
open TV.Routing

/-- the envelope says who really wrote it: the server, or a connection whose peer id is the `from` and whose session
is the recorded one -/
def Authored (s : St) (e : Env) : Prop :=
  (e.aconn = 0 ∧ e.frm = 0) ∨ (∃ m ∈ s.ever, m.conn = e.aconn ∧ m.peer = e.frm ∧ m.sid = e.asid)

/-- an envelope held for connection `x.1` is legitimately there -/
def Good (s : St) (x : Conn × Env) : Prop :=
  Authored s x.2 ∧ ∃ m ∈ s.ever, m.conn = x.1 ∧ m.sid = x.2.asid ∧ (x.2.to ≠ 0 → m.peer = x.2.to) ∧
    (x.2.to = 0 → x.2.aconn ≠ 0 → m.peer ≠ x.2.frm)

structure Inv (s : St) : Prop where
  noPanic : s.panicked = false
  everConn : (s.ever.map (·.conn)).Nodup
  everNZ : ∀ m ∈ s.ever, m.conn ≠ 0
  memNodup : (s.members.map (·.conn)).Nodup
  memEver : ∀ m ∈ s.members, m ∈ s.ever
  sockEver : ∀ m ∈ s.socks, m ∈ s.ever
  memOpen : ∀ m ∈ s.members, m.conn ∉ s.closedCh
  closedEver : ∀ c ∈ s.closedCh, ∃ m ∈ s.ever, m.conn = c
  memUniq : ∀ m1 ∈ s.members, ∀ m2 ∈ s.members, m1.sid = m2.sid → m1.peer = m2.peer → m1 = m2
  pendTargets : ∀ p ∈ s.pend, ∀ t ∈ p.targets, ∃ m ∈ s.members, m.conn = t ∧ m.sid = p.env.asid ∧
    (p.env.aconn ≠ 0 → m.peer ≠ p.env.frm)
  pendShape : ∀ p ∈ s.pend, p.env.to = 0 ∧ Authored s p.env
  storedQ : ∀ x ∈ s.queue, Good s x
  storedR : ∀ x ∈ s.recvd, Good s x
  storedD : ∀ x ∈ s.dropped, Good s x

/-- sequence numbers of what author `a` has in the stream of recipient `r`, oldest first -/
def proj (l : List (Conn × Env)) (r a : Conn) : List Nat :=
  (l.filter (fun x => x.1 == r && x.2.aconn == a)).map (·.2.seq)

/-- client authors with a broadcast in progress -/
def authors (l : List Pend) : List Conn := (l.map (·.env.aconn)).filter (· != 0)

-- `pendOne`: a client has at most one broadcast in progress (its handler sits in `BroadcastExcept`: `step` refuses its `msg`).
-- `pendFresh`: what its author already has in the stream of a target not yet tried is older than the pending envelope.
structure Fifo (s : St) : Prop where
  bound : ∀ x ∈ s.recvd ++ s.queue, x.2.aconn ≠ 0 → x.2.seq < nextOf s x.2.aconn
  pendBound : ∀ p ∈ s.pend, p.env.aconn ≠ 0 → p.env.seq < nextOf s p.env.aconn
  pendOne : (authors s.pend).Nodup
  pendNodup : ∀ p ∈ s.pend, p.targets.Nodup
  pendFresh : ∀ p ∈ s.pend, p.env.aconn ≠ 0 → ∀ x ∈ s.recvd ++ s.queue, x.2.aconn = p.env.aconn →
    x.1 ∈ p.targets → x.2.seq < p.env.seq
  sorted : ∀ r a, a ≠ 0 → (proj (s.recvd ++ s.queue) r a).Pairwise (· < ·)

theorem nodup_snoc {α : Type} {l : List α} {a : α} (hl : l.Nodup) (ha : a ∉ l) : (l ++ [a]).Nodup :=
  List.nodup_append_comm.mp (List.nodup_cons.mpr ⟨ha, hl⟩)

theorem forall_mem_snoc {α : Type} {p : α → Prop} {l : List α} {a : α} (hl : ∀ x ∈ l, p x) (ha : p a) :
    ∀ x ∈ l ++ [a], p x :=
  List.forall_mem_append.mpr ⟨hl, List.forall_mem_singleton.mpr ha⟩

/-! ## what each action does -/

theorem not_any_conn {α : Type} {l : List α} {f : α → Conn} {c : Conn} :
    ¬(l.any fun x => f x == c) = true ↔ ∀ x ∈ l, f x ≠ c := by simp

theorem step_join {s s' : St} {sid : Sid} {c : Conn} {p : Peer} :
    step s (.join sid c p) = some s' ↔ (s.pend = [] ∧ c ≠ 0 ∧ ∀ m ∈ s.ever, m.conn ≠ c) ∧
      { s with members := s.members.filter (fun m => !(m.sid == sid && m.peer == p)) ++ [⟨sid, c, p⟩],
               socks := s.socks ++ [⟨sid, c, p⟩], ever := s.ever ++ [⟨sid, c, p⟩],
               closedCh := s.closedCh ++ (s.members.filter (fun m => m.sid == sid && m.peer == p)).map (·.conn) } = s' := by
  rw [step, Option.ite_none_left_eq_some, Option.some.injEq, not_or, not_or, not_not, not_any_conn]

theorem step_leave {s s' : St} {c : Conn} :
    step s (.leave c) = some s' ↔ s.pend = [] ∧
      (if s.members.any (fun m => m.conn == c) then
        { s with members := s.members.filter (fun m => m.conn != c), closedCh := s.closedCh ++ [c] } else s) = s' := by
  rw [step, ← apply_ite some, Option.ite_none_left_eq_some, Option.some.injEq, not_not]

theorem step_hangup {s s' : St} {c : Conn} :
    step s (.hangup c) = some s' ↔ (∀ p ∈ s.pend, p.env.aconn ≠ c) ∧
      { s with socks := s.socks.filter (fun m => m.conn != c) } = s' := by
  rw [step, Option.ite_none_left_eq_some, Option.some.injEq, not_any_conn]

theorem step_closeSession {s s' : St} {sid : Sid} :
    step s (.closeSession sid) = some s' ↔ s.pend = [] ∧
      { s with members := s.members.filter (fun m => m.sid != sid),
               closedCh := s.closedCh ++ (membersOf s sid).map (·.conn) } = s' := by
  rw [step, Option.ite_none_left_eq_some, Option.some.injEq, not_not]

/-- the state after the handler `me` of connection `c` has read a message that validation took for `v`: the `msg` case
of `step` past its guards -/
def routed (s : St) (c : Conn) (me : Member) : (v : Option (Peer × Peer × Nat)) → St
  | none => s
  | some (_, tgt, body) =>
    let e : Env := ⟨me.peer, tgt, body, c, me.sid, nextOf s c⟩
    let s1 := { s with next := bump s c }
    if tgt ≠ 0 then
      match lookup s me.sid tgt with
      | some m => trySend s1 m.conn e
      | none => { s1 with errs := s.errs ++ [(c, tgt)] }
    else
      { s1 with pend := s.pend ++ [⟨e, ((membersOf s me.sid).map (·.conn)).filter
          (fun t => some t != (lookup s me.sid me.peer).map (·.conn))⟩] }

theorem step_msg {s s' : St} {c : Conn} {raw : Raw} :
    step s (.msg c raw) = some s' ↔ ∃ me, s.socks.find? (fun m => m.conn == c) = some me ∧
      (∀ p ∈ s.pend, p.env.aconn ≠ c) ∧ routed s c me (accepted raw) = s' := by
  rw [step]
  cases s.socks.find? (fun m => m.conn == c) with
  | none => simp
  | some me =>
    simp only [Option.some.injEq, exists_eq_left', Option.ite_none_left_eq_some, not_any_conn]
    rcases accepted raw with _ | ⟨cl, tgt, body⟩
    · simp only [routed, Option.some.injEq]
    · by_cases ht : tgt ≠ 0
      · cases hl : lookup s me.sid tgt <;> simp only [routed, if_pos ht, hl, Option.some.injEq]
      · simp only [routed, if_neg ht, Option.some.injEq]

theorem step_msg_handler {s s' : St} {c : Conn} {raw : Raw} {me : Member}
    (hme : s.socks.find? (fun m => m.conn == c) = some me) (hs : step s (.msg c raw) = some s') :
    s' = routed s c me (accepted raw) := by
  obtain ⟨me', hme', -, rfl⟩ := step_msg.mp hs
  cases hme.symm.trans hme'
  rfl

theorem routed_known {s : St} {c : Conn} {me m : Member} {cl tgt : Peer} {body : Nat} (ht : tgt ≠ 0)
    (hl : lookup s me.sid tgt = some m) :
    routed s c me (some (cl, tgt, body)) =
      trySend { s with next := bump s c } m.conn ⟨me.peer, tgt, body, c, me.sid, nextOf s c⟩ := by
  simp only [routed, if_pos ht, hl]

theorem routed_unknown {s : St} {c : Conn} {me : Member} {cl tgt : Peer} {body : Nat} (ht : tgt ≠ 0)
    (hl : lookup s me.sid tgt = none) :
    routed s c me (some (cl, tgt, body)) =
      { s with next := bump s c, errs := s.errs ++ [(c, tgt)] } := by
  simp only [routed, if_pos ht, hl]

theorem trySend_pend (s : St) (r : Conn) (e : Env) (L : List Pend) :
    { trySend s r e with pend := L } = trySend { s with pend := L } r e := by
  unfold trySend queueLen
  by_cases h1 : r ∈ s.closedCh
  · simp only [h1, if_true]
  · by_cases h2 : (s.queue.filter (fun x => x.1 == r)).length < s.cap <;> simp only [h1, h2, if_true, if_false]

theorem pend_trySend (s : St) (r : Conn) (e : Env) : (trySend s r e).pend = s.pend := by
  unfold trySend
  split
  · rfl
  · split <;> rfl

/-- the broadcasts in progress after the `i`-th, `p`, has tried its target `r` -/
def pendAfter (L : List Pend) (i : Nat) (p : Pend) (r : Conn) : List Pend :=
  if p.targets.erase r = [] then L.eraseIdx i else L.set i ⟨p.env, p.targets.erase r⟩

theorem step_bstep {s s' : St} {i : Nat} {r : Conn} :
    step s (.bstep i r) = some s' ↔ ∃ p, s.pend[i]? = some p ∧ r ∈ p.targets ∧
      trySend { s with pend := pendAfter s.pend i p r } r p.env = s' := by
  rw [step]
  cases s.pend[i]? with
  | none => simp
  | some p =>
    simp only [Option.some.injEq, exists_eq_left', Option.ite_none_right_eq_some, pend_trySend, trySend_pend, pendAfter]

theorem step_deliver {s s' : St} {r : Conn} :
    step s (.deliver r) = some s' ↔ ∃ e rest, popFirst r s.queue = some (e, rest) ∧
      { s with queue := rest, recvd := s.recvd ++ [(r, e)] } = s' := by
  rw [step]
  rcases popFirst r s.queue with _ | ⟨e, rest⟩ <;> simp

theorem trySend_room (s : St) {r : Conn} (e : Env) (ho : r ∉ s.closedCh) (hroom : queueLen s r < s.cap) :
    trySend s r e = { s with queue := s.queue ++ [(r, e)] } := by
  rw [trySend, if_neg ho, if_pos hroom]

theorem popFirst_spec {r : Conn} {q rest : List (Conn × Env)} {e : Env} (h : popFirst r q = some (e, rest)) :
    ∃ l1 l2, q = l1 ++ (r, e) :: l2 ∧ rest = l1 ++ l2 ∧ ∀ x ∈ l1, x.1 ≠ r := by
  induction q generalizing rest with
  | nil => cases h
  | cons x xs ih =>
    obtain ⟨c, e'⟩ := x
    rw [popFirst] at h
    split at h
    · cases h
      cases beq_iff_eq.mp ‹_›
      exact ⟨[], xs, rfl, rfl, fun _ h => nomatch h⟩
    · split at h
      · cases h
        obtain ⟨l1, l2, rfl, rfl, h3⟩ := ih ‹_›
        exact ⟨(c, e') :: l1, l2, rfl, rfl, List.forall_mem_cons.mpr ⟨fun hc => ‹¬_› (beq_iff_eq.mpr hc), h3⟩⟩
      · cases h

theorem mem_stream {s : St} {r : Conn} {e : Env} : e ∈ stream s r ↔ (r, e) ∈ s.recvd ++ s.queue := by
  simp [stream]

theorem stream_deliver {s : St} {r : Conn} {e : Env} {rest : List (Conn × Env)}
    (hp : popFirst r s.queue = some (e, rest)) (r' : Conn) :
    stream { s with queue := rest, recvd := s.recvd ++ [(r, e)] } r' = stream s r' := by
  obtain ⟨l1, l2, h1, rfl, h3⟩ := popFirst_spec hp
  -- nothing of `r` precedes `(r, e)` in the queue (`hpre`), so moving it to the end of `recvd` keeps `r`'s stream
  have hpre : l1.filter (fun x => x.1 == r) = [] := List.filter_eq_nil_iff.mpr fun x hx => by simpa using h3 x hx
  simp only [stream, h1, List.filter_append, List.filter_cons, List.filter_nil]
  by_cases hr : r = r'
  · subst hr
    simp [hpre]
  · simp [hr]

theorem handler_mem {s : St} {c : Conn} {me : Member} (h : s.socks.find? (fun m => m.conn == c) = some me) :
    me ∈ s.socks ∧ me.conn = c :=
  ⟨List.mem_of_find?_eq_some h, by simpa using List.find?_some h⟩

theorem lookup_mem {s : St} {sid : Sid} {p : Peer} {m : Member} (h : lookup s sid p = some m) :
    m ∈ s.members ∧ m.sid = sid ∧ m.peer = p := by
  have h2 := List.find?_some h
  rw [Bool.and_eq_true, beq_iff_eq, beq_iff_eq] at h2
  exact ⟨List.mem_of_find?_eq_some h, h2⟩

/-- the target list of an unaddressed message read by the handler `me` -/
theorem mem_targets {s : St} {me : Member} {t : Conn} :
    t ∈ ((membersOf s me.sid).map (·.conn)).filter (fun t => some t != (lookup s me.sid me.peer).map (·.conn)) ↔
      (∃ m ∈ s.members, m.sid = me.sid ∧ m.conn = t) ∧ some t ≠ (lookup s me.sid me.peer).map (·.conn) := by
  simp [membersOf, and_assoc]

theorem nextOf_bump (s : St) (c c' : Conn) :
    nextOf { s with next := bump s c } c' = if c' = c then nextOf s c + 1 else nextOf s c' := by
  have hfind : (bump s c).find? (fun x => x.1 == c') =
      if c' = c then some (c, nextOf s c + 1) else s.next.find? (fun x => x.1 == c') := by
    rw [bump, List.find?_append, List.find?_filter, List.find?_singleton]
    by_cases h : c' = c
    · -- `bump` keeps no entry of `c`: the look-up reaches the appended one
      subst h
      rw [List.find?_eq_none.mpr fun a _ => by simp, Option.none_or, if_pos (beq_self_eq_true _), if_pos rfl]
    · -- the filter of `bump` hides no entry of `c'`
      have hkeep : ∀ a : Conn × Nat, decide ((a.1 != c) = true ∧ (a.1 == c') = true) = (a.1 == c') := fun a => by
        by_cases ha : a.1 = c' <;> simp [ha, h]
      rw [funext hkeep, if_neg (by simpa using Ne.symm h), Option.or_none, if_neg h]
  rw [nextOf, hfind]
  split <;> rfl

theorem mem_authors {l : List Pend} {a : Conn} : a ∈ authors l ↔ (∃ q ∈ l, q.env.aconn = a) ∧ a ≠ 0 := by
  rw [authors, List.mem_filter, List.mem_map, bne_iff_ne]

/-- `L'` is `L` after some broadcast steps: entries may have gone, the others may have lost targets -/
def Shrunk (L' L : List Pend) : Prop :=
  (authors L').Sublist (authors L) ∧ ∀ q' ∈ L', ∃ q ∈ L, q'.env = q.env ∧ q'.targets.Sublist q.targets

theorem Shrunk.refl (L : List Pend) : Shrunk L L :=
  ⟨.refl _, fun q hq => ⟨q, hq, rfl, .refl _⟩⟩

/-- the list on the right has the authors of `L`, each at its place (`authors_set`) -/
theorem pendAfter_sublist (L : List Pend) (i : Nat) (p : Pend) (r : Conn) :
    (pendAfter L i p r).Sublist (L.set i ⟨p.env, p.targets.erase r⟩) := by
  unfold pendAfter
  split
  · rw [← List.eraseIdx_set_eq (a := ⟨p.env, p.targets.erase r⟩)]
    exact List.eraseIdx_sublist ..
  · exact .refl _

theorem authors_set {L : List Pend} {i : Nat} {p : Pend} (hp : L[i]? = some p) (ts : List Conn) :
    authors (L.set i ⟨p.env, ts⟩) = authors L := by
  obtain ⟨hi, rfl⟩ := List.getElem?_eq_some_iff.mp hp
  rw [authors, List.map_set, ← List.getElem_map (fun q : Pend => q.env.aconn) (h := by simpa using hi),
    List.set_getElem_self]
  rfl

theorem pendAfter_shrunk {L : List Pend} {i : Nat} {p : Pend} {r : Conn} (hp : L[i]? = some p) :
    Shrunk (pendAfter L i p r) L := by
  have hsub := pendAfter_sublist L i p r
  have hau : (authors (pendAfter L i p r)).Sublist (authors (L.set i ⟨p.env, p.targets.erase r⟩)) :=
    (hsub.map _).filter _
  rw [authors_set hp] at hau
  refine ⟨hau, fun q hq => ?_⟩
  rcases List.mem_or_eq_of_mem_set (hsub.subset hq) with h | rfl
  · exact ⟨q, h, rfl, .refl _⟩
  · exact ⟨p, List.mem_of_getElem? hp, rfl, List.erase_sublist⟩

/-- what `Fifo.trySend` asks for (`hpend`) when `p.env` is queued for `r` -/
theorem pendAfter_not_target {L : List Pend} {i : Nat} {p : Pend} {r : Conn} (hp : L[i]? = some p)
    (ho : (authors L).Nodup) (hnd : p.targets.Nodup) (h0 : p.env.aconn ≠ 0) :
    ∀ q ∈ pendAfter L i p r, q.env.aconn = p.env.aconn → r ∉ q.targets := fun q hq ha => by
  let p' : Pend := ⟨p.env, p.targets.erase r⟩
  -- `aconn` is injective on the client entries of `L.set i p'` (`ho`), so `q` is `p'`, which does not list `r`
  rw [← authors_set hp (p.targets.erase r), authors, List.filter_map] at ho
  have hclient : ∀ q ∈ L.set i p', q.env.aconn = p.env.aconn →
      q ∈ (L.set i p').filter ((· != 0) ∘ fun q => q.env.aconn) :=
    fun q hq hqa => List.mem_filter.mpr ⟨hq, by simpa [hqa] using h0⟩
  have hp' : p' ∈ L.set i p' := List.mem_set (List.getElem?_eq_some_iff.mp hp).1 p'
  rw [List.inj_on_of_nodup_map ho (hclient q ((pendAfter_sublist L i p r).subset hq) ha) (hclient p' hp' rfl) ha]
  exact fun h => (hnd.mem_erase_iff.mp h).1 rfl

/-! ## who may hold what -/

theorem inv_init (cap : Nat) : Inv (init cap) := by
  constructor <;> simp [init]

theorem Authored.mono {s s' : St} {e : Env} (h : Authored s e) (he : ∀ m ∈ s.ever, m ∈ s'.ever) :
    Authored s' e := by
  rcases h with h | ⟨m, hm, h⟩
  · exact Or.inl h
  · exact Or.inr ⟨m, he m hm, h⟩

theorem Good.mono {s s' : St} {x : Conn × Env} (h : Good s x) (he : ∀ m ∈ s.ever, m ∈ s'.ever) : Good s' x := by
  obtain ⟨ha, m, hm, h⟩ := h
  exact ⟨ha.mono he, m, he m hm, h⟩

theorem ever_conn_unique {s : St} (h : Inv s) {a b : Member} (ha : a ∈ s.ever) (hb : b ∈ s.ever)
    (hc : a.conn = b.conn) : a = b :=
  List.inj_on_of_nodup_map h.everConn ha hb hc

/-- `leave`, `closeSession` and the replacement of a duplicate peer id by `join` -/
theorem Inv.unregister {s : St} (h : Inv s) (hp : s.pend = []) (drop : Member → Bool) {closed : List Conn}
    (hc : closed ⊆ (s.members.filter drop).map (·.conn)) :
    Inv { s with members := s.members.filter (fun m => !drop m), closedCh := s.closedCh ++ closed } :=
  have hdrop : ∀ c ∈ closed, ∃ m ∈ s.members, drop m = true ∧ m.conn = c := fun c hcl => by
    obtain ⟨m, hm, rfl⟩ := List.mem_map.mp (hc hcl)
    exact ⟨m, (List.mem_filter.mp hm).1, (List.mem_filter.mp hm).2, rfl⟩
  { h with
    memNodup := h.memNodup.sublist (List.filter_sublist.map _)
    memEver := fun m hm => h.memEver m (List.mem_of_mem_filter hm)
    memOpen := fun m hm hcl => by
      obtain ⟨hm, hk⟩ := List.mem_filter.mp hm
      rcases List.mem_append.mp hcl with hcl | hcl
      · exact h.memOpen m hm hcl
      · obtain ⟨m', hm', hd, hc'⟩ := hdrop _ hcl
        rw [List.inj_on_of_nodup_map h.memNodup hm' hm hc'] at hd
        rw [hd] at hk
        cases hk
    closedEver := fun c hcl => by
      rcases List.mem_append.mp hcl with hcl | hcl
      · exact h.closedEver c hcl
      · obtain ⟨m, hm, -, rfl⟩ := hdrop c hcl
        exact ⟨m, h.memEver m hm, rfl⟩
    memUniq := fun m1 h1 m2 h2 => h.memUniq m1 (List.mem_of_mem_filter h1) m2 (List.mem_of_mem_filter h2)
    pendTargets := fun p hp' => absurd hp' (hp ▸ List.not_mem_nil) }

theorem Inv.register {s : St} {m : Member} (h : Inv s) (h0 : m.conn ≠ 0)
    (hfresh : ∀ m' ∈ s.ever, m'.conn ≠ m.conn) (huniq : ∀ m' ∈ s.members, m'.sid = m.sid → m'.peer ≠ m.peer) :
    Inv { s with members := s.members ++ [m], socks := s.socks ++ [m], ever := s.ever ++ [m] } :=
  have hmono : ∀ m' ∈ s.ever, m' ∈ s.ever ++ [m] := fun _ => List.mem_append_left _
  have hm : m ∈ s.ever ++ [m] := List.mem_append_right _ (List.mem_singleton_self m)
  have hnew : ∀ l : List Member, (∀ m' ∈ l, m' ∈ s.ever) → m.conn ∉ l.map (·.conn) := fun l hl hc => by
    obtain ⟨m', hm', hc'⟩ := List.mem_map.mp hc
    exact hfresh m' (hl m' hm') hc'
  { noPanic := h.noPanic
    everConn := List.map_append ▸ nodup_snoc h.everConn (hnew _ fun _ hm => hm)
    everNZ := forall_mem_snoc h.everNZ h0
    memNodup := List.map_append ▸ nodup_snoc h.memNodup (hnew _ h.memEver)
    memEver := forall_mem_snoc (fun m' hm' => hmono m' (h.memEver m' hm')) hm
    sockEver := forall_mem_snoc (fun m' hm' => hmono m' (h.sockEver m' hm')) hm
    memOpen := forall_mem_snoc h.memOpen fun hcl => by
      obtain ⟨m', hm', hc'⟩ := h.closedEver _ hcl
      exact hfresh m' hm' hc'
    closedEver := fun c hc => by
      obtain ⟨m', hm', hc'⟩ := h.closedEver c hc
      exact ⟨m', hmono m' hm', hc'⟩
    memUniq := fun m1 h1 m2 h2 hs hp => by
      rcases List.mem_append.mp h1 with h1 | h1 <;> rcases List.mem_append.mp h2 with h2 | h2
      · exact h.memUniq m1 h1 m2 h2 hs hp
      · cases List.mem_singleton.mp h2
        exact absurd hp (huniq m1 h1 hs)
      · cases List.mem_singleton.mp h1
        exact absurd hp.symm (huniq m2 h2 hs.symm)
      · rw [List.mem_singleton.mp h1, List.mem_singleton.mp h2]
    pendTargets := fun p hp t ht => by
      obtain ⟨m', hm', h'⟩ := h.pendTargets p hp t ht
      exact ⟨m', List.mem_append_left _ hm', h'⟩
    pendShape := fun p hp => ⟨(h.pendShape p hp).1, (h.pendShape p hp).2.mono hmono⟩
    storedQ := fun x hx => (h.storedQ x hx).mono hmono
    storedR := fun x hx => (h.storedR x hx).mono hmono
    storedD := fun x hx => (h.storedD x hx).mono hmono }

theorem Inv.trySend {s : St} {m : Member} {e : Env} (h : Inv s) (hm : m ∈ s.members) (hau : Authored s e)
    (hsid : m.sid = e.asid) (hto : e.to ≠ 0 → m.peer = e.to) (hfrm : e.to = 0 → e.aconn ≠ 0 → m.peer ≠ e.frm) :
    Inv (trySend s m.conn e) := by
  have hg : Good s (m.conn, e) := ⟨hau, m, h.memEver m hm, rfl, hsid, hto, hfrm⟩
  rw [Routing.trySend, if_neg (h.memOpen m hm)]
  split
  · exact { h with storedQ := forall_mem_snoc h.storedQ hg }
  · exact { h with storedD := forall_mem_snoc h.storedD hg }

theorem Inv.pend_append {s : St} {e : Env} {ts : List Conn} (h : Inv s) (hto : e.to = 0) (hau : Authored s e)
    (hts : ∀ t ∈ ts, ∃ m ∈ s.members, m.conn = t ∧ m.sid = e.asid ∧ (e.aconn ≠ 0 → m.peer ≠ e.frm)) :
    Inv { s with pend := s.pend ++ [⟨e, ts⟩] } :=
  { h with
    pendTargets := forall_mem_snoc h.pendTargets hts
    pendShape := forall_mem_snoc h.pendShape ⟨hto, hau⟩ }

theorem Inv.pend_shrink {s : St} {L' : List Pend} (h : Inv s) (hL : Shrunk L' s.pend) : Inv { s with pend := L' } :=
  { h with
    pendTargets := fun q' hq' t ht => by
      obtain ⟨q, hq, he, hsub⟩ := hL.2 q' hq'
      rw [he]
      exact h.pendTargets q hq t (hsub.subset ht)
    pendShape := fun q' hq' => by
      obtain ⟨q, hq, he, -⟩ := hL.2 q' hq'
      rw [he]
      exact h.pendShape q hq }

theorem lookup_of_mem {s : St} {m : Member} (h : Inv s) (hm : m ∈ s.members) : lookup s m.sid m.peer = some m := by
  cases hl : lookup s m.sid m.peer with
  | none => exact absurd (List.find?_eq_none.mp hl m hm) (by simp)
  | some m' =>
    obtain ⟨h1, h2, h3⟩ := lookup_mem hl
    rw [h.memUniq m' h1 m hm h2 h3]

theorem step_inv {s s' : St} {a : Act} (h : Inv s) (hs : step s a = some s') : Inv s' := by
  cases a with
  | join sid c p =>
    obtain ⟨⟨hp, hc0, hfresh⟩, rfl⟩ := step_join.mp hs
    have h1 := h.unregister hp (fun m => m.sid == sid && m.peer == p) (List.Subset.refl _)
    exact h1.register (m := ⟨sid, c, p⟩) hc0 hfresh fun m' hm' hsid hpeer => by
      have hkept : (!(m'.sid == sid && m'.peer == p)) = true := (List.mem_filter.mp hm').2
      simp [hsid, hpeer] at hkept
  | leave c =>
    obtain ⟨hp, rfl⟩ := step_leave.mp hs
    split
    · obtain ⟨m, hm, hc⟩ := List.any_eq_true.mp ‹_›
      refine h.unregister hp (fun m => m.conn == c) (List.cons_subset.mpr ⟨?_, List.nil_subset _⟩)
      exact List.mem_map.mpr ⟨m, List.mem_filter.mpr ⟨hm, hc⟩, beq_iff_eq.mp hc⟩
    · exact h
  | hangup c =>
    obtain ⟨-, rfl⟩ := step_hangup.mp hs
    exact { h with sockEver := fun m hm => h.sockEver m (List.mem_of_mem_filter hm) }
  | closeSession sid =>
    obtain ⟨hp, rfl⟩ := step_closeSession.mp hs
    exact h.unregister hp (fun m => m.sid == sid) (List.Subset.refl _)
  | sys sid body =>
    cases hs
    refine h.pend_append rfl (Or.inl ⟨rfl, rfl⟩) fun t ht => ?_
    obtain ⟨m, hm, rfl⟩ := List.mem_map.mp ht
    exact ⟨m, List.mem_of_mem_filter hm, rfl, beq_iff_eq.mp (List.mem_filter.mp hm).2, fun h0 => absurd rfl h0⟩
  | msg c raw =>
    obtain ⟨me, hme, -, rfl⟩ := step_msg.mp hs
    obtain ⟨hsock, hconn⟩ := handler_mem hme
    have hau : ∀ tgt body, Authored s ⟨me.peer, tgt, body, c, me.sid, nextOf s c⟩ := fun _ _ =>
      Or.inr ⟨me, h.sockEver me hsock, hconn, rfl, rfl⟩
    have h1 : Inv { s with next := bump s c } := { h with }  -- no field of `Inv` mentions `next` or `errs`
    rcases accepted raw with _ | ⟨cl, tgt, body⟩
    · exact h
    · by_cases ht : tgt = 0
      · subst ht
        refine h1.pend_append rfl (hau 0 body) fun t ht => ?_
        obtain ⟨⟨m, hm, hsid, rfl⟩, hne⟩ := mem_targets.mp ht
        refine ⟨m, hm, rfl, hsid, fun _ hpeer => hne ?_⟩
        -- a target with the author's peer id would be the member that `lookup` finds, and that one was excluded
        rw [← hsid, ← show m.peer = me.peer from hpeer, lookup_of_mem h hm]
        rfl
      · cases hl : lookup s me.sid tgt with
        | none =>
          rw [routed_unknown ht hl]
          exact { h with }
        | some m =>
          obtain ⟨hm1, hm2, hm3⟩ := lookup_mem hl
          rw [routed_known ht hl]
          exact h1.trySend hm1 (hau tgt body) (hsid := hm2) (hto := fun _ => hm3) (hfrm := fun h0 => absurd h0 ht)
  | bstep i r =>
    obtain ⟨p, hp, hr, rfl⟩ := step_bstep.mp hs
    have hpm := List.mem_of_getElem? hp
    obtain ⟨m, hm, rfl, hms, hmp⟩ := h.pendTargets p hpm r hr
    obtain ⟨hto, hau⟩ := h.pendShape p hpm
    exact (h.pend_shrink (pendAfter_shrunk hp)).trySend hm hau (hsid := hms) (hto := fun hne => absurd hto hne)
      (hfrm := fun _ => hmp)
  | deliver r =>
    obtain ⟨e, rest, hp, rfl⟩ := step_deliver.mp hs
    obtain ⟨l1, l2, h1, rfl, -⟩ := popFirst_spec hp
    have hq : ∀ x ∈ (r, e) :: (l1 ++ l2), Good s x := fun x hx =>
      h.storedQ x (h1 ▸ List.perm_middle.mem_iff.mpr hx)
    exact { h with
      storedQ := fun x hx => hq x (List.mem_cons_of_mem _ hx)
      storedR := forall_mem_snoc h.storedR (hq _ List.mem_cons_self) }

/-! ## order: per (author connection, recipient connection) nothing is duplicated or overtaken -/

theorem fifo_init (cap : Nat) : Fifo (init cap) := by
  constructor <;> simp [init, authors, proj]

theorem proj_append (l1 l2 : List (Conn × Env)) (r a : Conn) : proj (l1 ++ l2) r a = proj l1 r a ++ proj l2 r a := by
  simp [proj]

theorem proj_single (x : Conn × Env) (r a : Conn) :
    proj [x] r a = if x.1 = r ∧ x.2.aconn = a then [x.2.seq] else [] := by
  simp only [proj, List.filter_cons, Bool.and_eq_true, beq_iff_eq]
  split <;> rfl

theorem mem_proj {l : List (Conn × Env)} {r a : Conn} {n : Nat} :
    n ∈ proj l r a ↔ ∃ x ∈ l, x.1 = r ∧ x.2.aconn = a ∧ x.2.seq = n := by
  simp only [proj, List.mem_map, List.mem_filter, Bool.and_eq_true, beq_iff_eq, and_assoc]

theorem proj_stream (s : St) (r a : Conn) :
    proj (s.recvd ++ s.queue) r a = ((stream s r).filter (fun e => e.aconn == a)).map (·.seq) := by
  simp only [stream, proj, List.filter_map, List.map_map, List.filter_filter]
  congr 1
  apply List.filter_congr
  intro x _
  simp [Bool.and_comm]

/-- `Fifo` reads `recvd ++ queue` only through the streams of the connections, and `nextOf` only as an upper bound -/
theorem Fifo.mono {s t : St} (hf : Fifo s) (hlog : ∀ r, stream t r = stream s r) (hp : Shrunk t.pend s.pend)
    (hn : ∀ a, nextOf s a ≤ nextOf t a) : Fifo t :=
  have hmem : ∀ x ∈ t.recvd ++ t.queue, x ∈ s.recvd ++ s.queue := fun x hx =>
    mem_stream.mp (hlog x.1 ▸ mem_stream.mpr hx)
  { bound := fun x hx h0 => Nat.lt_of_lt_of_le (hf.bound x (hmem x hx) h0) (hn _)
    pendBound := fun q' hq' h0 => by
      obtain ⟨q, hq, he, -⟩ := hp.2 q' hq'
      rw [he] at h0 ⊢
      exact Nat.lt_of_lt_of_le (hf.pendBound q hq h0) (hn _)
    pendOne := hf.pendOne.sublist hp.1
    pendNodup := fun q' hq' => by
      obtain ⟨q, hq, -, hsub⟩ := hp.2 q' hq'
      exact (hf.pendNodup q hq).sublist hsub
    pendFresh := fun q' hq' h0 x hx ha ht => by
      obtain ⟨q, hq, he, hsub⟩ := hp.2 q' hq'
      rw [he] at h0 ha ⊢
      exact hf.pendFresh q hq h0 x (hmem x hx) ha (hsub.subset ht)
    sorted := fun r a ha => by
      rw [proj_stream, hlog, ← proj_stream]
      exact hf.sorted r a ha }

theorem Fifo.transfer {s t : St} (hf : Fifo s) (hr : t.recvd = s.recvd) (hq : t.queue = s.queue)
    (hp : t.pend = s.pend) (hn : t.next = s.next) : Fifo t :=
  hf.mono (fun r => by rw [stream, hr, hq, ← stream]) (hp ▸ Shrunk.refl _)
    fun a => Nat.le_of_eq (by rw [nextOf, nextOf, hn])

/-- `hpend`: `pendFresh` would ask that `e` be older than a broadcast in progress of its author that still lists `r` -/
theorem Fifo.trySend {s : St} {r : Conn} {e : Env} (hf : Fifo s)
    (hbound : e.aconn ≠ 0 → e.seq < nextOf s e.aconn)
    (hlast : e.aconn ≠ 0 → ∀ x ∈ s.recvd ++ s.queue, x.1 = r → x.2.aconn = e.aconn → x.2.seq < e.seq)
    (hpend : e.aconn ≠ 0 → ∀ p ∈ s.pend, p.env.aconn = e.aconn → r ∉ p.targets) : Fifo (trySend s r e) := by
  unfold Routing.trySend
  -- channel closed (only `panicked` changes), room in the queue, queue full (only `dropped` changes)
  split
  · exact hf.transfer rfl rfl rfl rfl
  split
  · have hlog : ∀ x ∈ s.recvd ++ (s.queue ++ [(r, e)]), x ∈ s.recvd ++ s.queue ∨ x = (r, e) := fun x hx => by
      rwa [← List.append_assoc, List.mem_append, List.mem_singleton] at hx
    exact { hf with
      bound := fun x hx h0 => by
        rcases hlog x hx with h | rfl
        exacts [hf.bound x h h0, hbound h0]
      pendFresh := fun p hp h0 x hx ha ht => by
        rcases hlog x hx with h | rfl
        · exact hf.pendFresh p hp h0 x h ha ht
        · exact absurd ht (hpend (ha ▸ h0) p hp ha.symm)
      sorted := fun r' a ha => by
        show (proj (s.recvd ++ (s.queue ++ [(r, e)])) r' a).Pairwise (· < ·)
        rw [← List.append_assoc, proj_append, proj_single]
        split
        · obtain ⟨rfl, rfl⟩ := ‹_ ∧ _›
          refine List.pairwise_append.mpr ⟨hf.sorted _ _ ha, List.pairwise_singleton _ _, fun n hn m hm => ?_⟩
          obtain ⟨x, hx, h1, h2, rfl⟩ := mem_proj.mp hn
          rw [List.mem_singleton.mp hm]
          exact hlast ha x hx h1 h2
        · rw [List.append_nil]
          exact hf.sorted r' a ha }
  · exact hf.transfer rfl rfl rfl rfl

theorem Fifo.pend_append {s : St} {e : Env} {ts : List Conn} (hf : Fifo s) (hts : ts.Nodup)
    (hbound : e.aconn ≠ 0 → e.seq < nextOf s e.aconn) (hone : e.aconn ≠ 0 → e.aconn ∉ authors s.pend)
    (hlast : e.aconn ≠ 0 → ∀ x ∈ s.recvd ++ s.queue, x.2.aconn = e.aconn → x.2.seq < e.seq) :
    Fifo { s with pend := s.pend ++ [⟨e, ts⟩] } :=
  { hf with
    pendBound := forall_mem_snoc hf.pendBound hbound
    pendOne := by
      show (authors (s.pend ++ [⟨e, ts⟩])).Nodup
      by_cases h0 : e.aconn = 0
      · simpa [authors, h0] using hf.pendOne
      · have : authors (s.pend ++ [⟨e, ts⟩]) = authors s.pend ++ [e.aconn] := by simp [authors, h0]
        exact this ▸ nodup_snoc hf.pendOne (hone h0)
    pendNodup := forall_mem_snoc hf.pendNodup hts
    pendFresh := forall_mem_snoc hf.pendFresh fun h0 x hx ha _ => hlast h0 x hx ha }

theorem membersOf_nodup {s : St} (hi : Inv s) (sid : Sid) : ((membersOf s sid).map (·.conn)).Nodup :=
  hi.memNodup.sublist (List.filter_sublist.map _)

theorem fifo_step {s s' : St} {a : Act} (hi : Inv s) (hf : Fifo s) (hs : step s a = some s') : Fifo s' := by
  cases a with
  | join sid c p =>
    obtain ⟨-, rfl⟩ := step_join.mp hs
    exact hf.transfer rfl rfl rfl rfl
  | leave c =>
    obtain ⟨-, rfl⟩ := step_leave.mp hs
    split
    · exact hf.transfer rfl rfl rfl rfl
    · exact hf
  | hangup c =>
    obtain ⟨-, rfl⟩ := step_hangup.mp hs
    exact hf.transfer rfl rfl rfl rfl
  | closeSession sid =>
    obtain ⟨-, rfl⟩ := step_closeSession.mp hs
    exact hf.transfer rfl rfl rfl rfl
  | sys sid body =>
    cases hs
    -- the server's envelope has author 0: nothing is asked of it
    exact hf.pend_append (membersOf_nodup hi sid) (absurd rfl) (absurd rfl) (absurd rfl)
  | msg c raw =>
    obtain ⟨me, hme, hnp, rfl⟩ := step_msg.mp hs  -- `hnp`: `c` has no broadcast in progress
    obtain ⟨hsock, hconn⟩ := handler_mem hme
    have hc0 : c ≠ 0 := hconn ▸ hi.everNZ me (hi.sockEver me hsock)
    have h1 : Fifo { s with next := bump s c } := hf.mono (fun _ => rfl) (Shrunk.refl _) fun a => by
      rw [nextOf_bump]
      split
      · exact ‹a = c› ▸ Nat.le_succ _
      · exact Nat.le_refl _
    have hseq : nextOf s c < nextOf { s with next := bump s c } c := by
      rw [nextOf_bump, if_pos rfl]
      exact Nat.lt_succ_self _
    have hold : ∀ x ∈ s.recvd ++ s.queue, x.2.aconn = c → x.2.seq < nextOf s c := fun x hx hc => by
      subst hc
      exact hf.bound x hx hc0
    rcases accepted raw with _ | ⟨cl, tgt, body⟩
    · exact hf
    · by_cases ht : tgt = 0
      · subst ht
        refine h1.pend_append ((membersOf_nodup hi me.sid).filter _) (hbound := fun _ => hseq)
          (hone := fun _ hmem => ?_) (hlast := fun _ => hold)
        obtain ⟨⟨q, hq, hqc⟩, -⟩ := mem_authors.mp hmem
        exact hnp q hq hqc
      · cases hl : lookup s me.sid tgt with
        | none =>
          rw [routed_unknown ht hl]
          exact h1.transfer rfl rfl rfl rfl
        | some m =>
          rw [routed_known ht hl]
          exact h1.trySend (hbound := fun _ => hseq) (hlast := fun _ x hx _ hc => hold x hx hc)
            (hpend := fun _ q hq hc => absurd hc (hnp q hq))
  | bstep i r =>
    obtain ⟨p, hp, hr, rfl⟩ := step_bstep.mp hs
    have hpm := List.mem_of_getElem? hp
    have h1 : Fifo { s with pend := pendAfter s.pend i p r } :=
      hf.mono (fun _ => rfl) (pendAfter_shrunk hp) fun _ => Nat.le_refl _
    exact h1.trySend (hbound := hf.pendBound p hpm)
      (hlast := fun h0 x hx hxr ha => hf.pendFresh p hpm h0 x hx ha (hxr ▸ hr))
      (hpend := pendAfter_not_target hp hf.pendOne (hf.pendNodup p hpm))
  | deliver r =>
    obtain ⟨e, rest, hp, rfl⟩ := step_deliver.mp hs
    exact hf.mono (stream_deliver hp) (Shrunk.refl _) fun _ => Nat.le_refl _

/-! ## the property -/

theorem reachable_inv {cap : Nat} {s : St} (h : Reachable cap s) : Inv s ∧ Fifo s := by
  induction h with
  | init => exact ⟨inv_init cap, fifo_init cap⟩
  | step a _ hs ih => exact ⟨step_inv ih.1 hs, fifo_step ih.1 ih.2 hs⟩

theorem reachable_run {cap : Nat} {s : St} (hs : Reachable cap s) (as : List Act) {s' : St}
    (h : run s as = some s') : Reachable cap s' :=
  run_keeps (P := Reachable cap) (nil := fun _ => rfl) (cons := fun s a as => by rw [run]; cases step s a <;> rfl)
    (hstep := fun a _ _ _ hs h => .step a hs h) hs h

/-- everything a connection holds (queued, already given to its socket, or skipped because its queue was full) -/
def held (s : St) : List (Conn × Env) := s.queue ++ s.recvd ++ s.dropped

theorem held_good {cap : Nat} {s : St} (h : Reachable cap s) {x : Conn × Env} (hx : x ∈ held s) : Good s x := by
  have hi := (reachable_inv h).1
  rcases List.mem_append.mp hx with hx | hx
  · rcases List.mem_append.mp hx with hx | hx
    exacts [hi.storedQ x hx, hi.storedR x hx]
  · exact hi.storedD x hx

/-- **Isolation.** An envelope held for connection `r` was written inside `r`'s own session — by the server for that
session, or by a connection of that session. Nobody in another session ever sees it. -/
theorem C10_isolation {cap : Nat} {s : St} (h : Reachable cap s) {r : Conn} {e : Env} (hx : (r, e) ∈ held s)
    {m : Member} (hm : m ∈ s.ever) (hr : m.conn = r) :
    e.asid = m.sid ∧ (e.aconn ≠ 0 → ∃ a ∈ s.ever, a.conn = e.aconn ∧ a.sid = m.sid) := by
  obtain ⟨hau, m', hm', hc', hs', -⟩ := held_good h hx
  rw [ever_conn_unique (reachable_inv h).1 hm hm' (hr.trans hc'.symm)]
  refine ⟨hs'.symm, fun h0 => ?_⟩
  rcases hau with ⟨h1, -⟩ | ⟨a, ha, h1, -, h3⟩
  · exact absurd h1 h0
  · exact ⟨a, ha, h1, h3.trans hs'.symm⟩

/-- **True sender.** The `from` a recipient sees is the peer id the author connected with — whatever the author wrote
into the field (`Raw.env`'s `frm` is arbitrary) — and "server" (0) only for envelopes the server itself made. -/
theorem C10_from {cap : Nat} {s : St} (h : Reachable cap s) {r : Conn} {e : Env} (hx : (r, e) ∈ held s) :
    (e.aconn = 0 ∧ e.frm = 0) ∨ (∃ a ∈ s.ever, a.conn = e.aconn ∧ e.frm = a.peer) := by
  rcases (held_good h hx).1 with h1 | ⟨a, ha, h1, h2, -⟩
  · exact Or.inl h1
  · exact Or.inr ⟨a, ha, h1, h2.symm⟩

/-- **Addressed messages reach only the named peer**; unaddressed client messages never come back to the author's
own peer id. -/
theorem C10_recipient {cap : Nat} {s : St} (h : Reachable cap s) {r : Conn} {e : Env} (hx : (r, e) ∈ held s)
    {m : Member} (hm : m ∈ s.ever) (hr : m.conn = r) :
    (e.to ≠ 0 → m.peer = e.to) ∧ (e.to = 0 → e.aconn ≠ 0 → m.peer ≠ e.frm) := by
  obtain ⟨-, m', hm', hc', -, h'⟩ := held_good h hx
  rwa [ever_conn_unique (reachable_inv h).1 hm hm' (hr.trans hc'.symm)]

/-- **No duplication, no reordering.** In the stream of any recipient, the messages of any one author connection
appear with strictly increasing positions of the author's own stream. -/
theorem C10_fifo {cap : Nat} {s : St} (h : Reachable cap s) (r a : Conn) (ha : a ≠ 0) :
    (((stream s r).filter (fun e => e.aconn == a)).map (·.seq)).Pairwise (· < ·) :=
  proj_stream s r a ▸ (reachable_inv h).2.sorted r a ha

theorem C10_no_duplicates {cap : Nat} {s : St} (h : Reachable cap s) (r a : Conn) (ha : a ≠ 0) :
    (((stream s r).filter (fun e => e.aconn == a)).map (·.seq)).Nodup :=
  (C10_fifo h r a ha).imp (fun hlt => Nat.ne_of_lt hlt)

/-- the broadcast never panics (send on a closed channel) -/
theorem C10_no_panic {cap : Nat} {s : St} (h : Reachable cap s) : s.panicked = false := (reachable_inv h).1.noPanic

/-! ### what one inbound message does (for every content) -/

/-- malformed input (not JSON, wrong version, missing type or id) has no effect at all -/
theorem C10_malformed_ignored {s s' : St} {c : Conn} {raw : Raw} (hacc : accepted raw = none)
    (hs : step s (.msg c raw) = some s') : s' = s := by
  obtain ⟨me, -, -, rfl⟩ := step_msg.mp hs
  rw [hacc]
  rfl

/-- **Unknown addressee**: exactly one `peer_not_found`, to the author only; nothing is queued anywhere. -/
theorem C10_unknown_addressee {s s' : St} {c : Conn} {raw : Raw} {me : Member} {claimed tgt : Peer} {body : Nat}
    (hme : s.socks.find? (fun m => m.conn == c) = some me) (hacc : accepted raw = some (claimed, tgt, body))
    (ht : tgt ≠ 0) (hl : lookup s me.sid tgt = none) (hs : step s (.msg c raw) = some s') :
    s'.errs = s.errs ++ [(c, tgt)] ∧ s'.queue = s.queue ∧ s'.recvd = s.recvd ∧ s'.dropped = s.dropped ∧ s'.pend = s.pend := by
  rw [step_msg_handler hme hs, hacc, routed_unknown ht hl]
  exact ⟨rfl, rfl, rfl, rfl, rfl⟩

/-- **Addressed delivery, not lost while the recipient keeps reading**: the named peer's registered connection gets
the envelope — with `from` = the author's peer id — appended to its queue, unless that queue is full. -/
theorem C10_addressed_delivered {s s' : St} {c : Conn} {raw : Raw} {me m : Member} {claimed tgt : Peer} {body : Nat}
    (hi : Inv s) (hme : s.socks.find? (fun m => m.conn == c) = some me)
    (hacc : accepted raw = some (claimed, tgt, body)) (ht : tgt ≠ 0) (hl : lookup s me.sid tgt = some m)
    (hroom : queueLen s m.conn < s.cap) (hs : step s (.msg c raw) = some s') :
    s'.queue = s.queue ++ [(m.conn, ⟨me.peer, tgt, body, c, me.sid, nextOf s c⟩)] ∧ s'.errs = s.errs := by
  rw [step_msg_handler hme hs, hacc, routed_known ht hl, trySend_room { s with next := bump s c } _ (hi.memOpen m (lookup_mem hl).1) hroom]
  exact ⟨rfl, rfl⟩

/-- **Unaddressed messages go to every other peer of the session**: the target list is exactly the registered
connections of the author's session minus the one registered under the author's peer id. -/
theorem C10_broadcast_targets {s s' : St} {c : Conn} {raw : Raw} {me : Member} {claimed : Peer} {body : Nat}
    (hme : s.socks.find? (fun m => m.conn == c) = some me) (hacc : accepted raw = some (claimed, 0, body))
    (hs : step s (.msg c raw) = some s') :
    ∃ p, s'.pend = s.pend ++ [p] ∧ p.env.frm = me.peer ∧ p.env.aconn = c ∧
      ∀ t, t ∈ p.targets ↔ (∃ m ∈ s.members, m.sid = me.sid ∧ m.conn = t) ∧
        some t ≠ (lookup s me.sid me.peer).map (·.conn) := by
  rw [step_msg_handler hme hs, hacc]
  exact ⟨_, rfl, rfl, rfl, fun _ => mem_targets⟩

/-- every target of a broadcast in progress gets its attempt, and it is queued when there is room -/
theorem C10_broadcast_step {s : St} (hi : Inv s) {i : Nat} {p : Pend} {r : Conn} (hp : s.pend[i]? = some p)
    (hr : r ∈ p.targets) :
    ∃ s', step s (.bstep i r) = some s' ∧ (queueLen s r < s.cap → s'.queue = s.queue ++ [(r, p.env)]) := by
  refine ⟨_, step_bstep.mpr ⟨p, hp, hr, rfl⟩, fun hroom => ?_⟩
  obtain ⟨m, hm, rfl, -⟩ := hi.pendTargets p (List.mem_of_getElem? hp) r hr
  rw [← trySend_pend, trySend_room s _ (hi.memOpen m hm) hroom]

/-! ### non-vacuity: two sessions, a spoofed `from`, an unknown addressee, a broadcast, a reconnect -/

def demo : List Act :=
  [.join 1 1 10, .join 1 2 20, .join 2 3 10, .join 2 4 30,
   .msg 1 (.env 1 true true 99 20 7),          -- addressed, claims to be peer 99
   .msg 1 (.env 1 true true 0 77 8),           -- unknown addressee
   .msg 1 (.env 2 true true 0 0 9),            -- wrong version: ignored
   .msg 3 (.env 1 true true 10 0 5),           -- broadcast in session 2 by the other peer "10"
   .bstep 0 4, .deliver 2, .deliver 4,
   .join 1 5 20,                               -- peer 20 reconnects: connection 2 is replaced
   .msg 1 (.env 1 true true 0 20 6), .deliver 5]

def demoState : St := (run (init 4) demo).getD (init 4)

theorem demo_run : run (init 4) demo = some demoState := by decide

example : run (init 4) demo ≠ none := demo_run ▸ Option.some_ne_none _

example : Reachable 4 demoState := reachable_run .init demo demo_run

example : demoState.recvd = [(2, ⟨10, 20, 7, 1, 1, 0⟩), (4, ⟨10, 0, 5, 3, 2, 0⟩), (5, ⟨10, 20, 6, 1, 1, 2⟩)] ∧
    demoState.errs = [(1, 77)] ∧ demoState.queue = [] ∧ demoState.closedCh = [2] := by decide

/-! ## the routing decisions of the source, as regenerated on this run (xlate, `Gen/Shapes.lean`) -/

open TV.Gen.Shapes in
/-- the handler overwrites `from` with the connection's peer id, routes addressed envelopes by (the connection's session,
the envelope's `to`) and unaddressed ones to the connection's session except the connection's peer id; the server's own
broadcasts go to the connection's session. The model's `msg` step was transcribed from exactly these expressions. -/
theorem C10_source_shapes :
    handler_from_overwrite = ["peerID"] ∧
    handler_sendto_args = ["sess.ID, env.To, env"] ∧
    handler_bcast_except_args = ["sess.ID, peerID, env"] ∧
    handler_bcast_args = ["sess.ID, peerJoinedEnv", "sess.ID, peerLeftEnv"] := ⟨rfl, rfl, rfl, rfl⟩

end TV.C10
