/-!
`computeParallelBudget` (internal/app/transfer_concurrency.go) with `HeuristicParams` and the clamp of
`NormalizeParams` (internal/transfer/params.go), over `Nat` (requested ≤ 0 is modelled as 0).
-/
namespace TV.Budget

def heuristic (files : Nat) : Nat := if files < 1 then 1 else if files > 6 then 6 else files

def atLeastOne (x : Nat) : Nat := if x < 1 then 1 else x
def raiseToConns (c t : Nat) : Nat := if c > 1 ∧ t < c then c else t
def capToFiles (striping : Bool) (files t : Nat) : Nat := if !striping ∧ files > 0 ∧ t > files then files else t
def capPerConn (striping : Bool) (files c t : Nat) : Nat :=
  if c > 1 ∧ t > 1 then
    let mx := if c * 4 < 2 then 2 else c * 4
    capToFiles striping files (if t > mx then mx else t)
  else t

def computeBudget (files req conns : Nat) (striping : Bool) : Nat × Nat :=
  let c := atLeastOne conns
  let t := atLeastOne (if req = 0 then heuristic files else req)
  let t := capPerConn striping files c (capToFiles striping files (raiseToConns c t))
  (t, atLeastOne ((t + c - 1) / c))

/-- `NormalizeParams`: ParallelFiles clamped to 1..8 -/
def normalizeStreams (t : Nat) : Nat := if t < 1 then 1 else if t > 8 then 8 else t

end TV.Budget
