import ThruVerif.Model.Sha256
/-!
Byte-level model of `internal/app/transport_auth.go`, parametric in the MAC function
(`mac key msg`; the driver instantiates it with HMAC-SHA256 from `Model/Sha256.lean`).

* `deriveKey`        - `deriveAuthKey`:    `HMAC(joinCode, exporter keying material)`
* `proof`            - `computeAuthMac`:   `HMAC(key, version ‖ role ‖ nonce)`
* `mkMsg`            - `writeAuthMessage`: `version ‖ role ‖ nonce(16) ‖ mac(32)` (50 bytes)
* `check`            - `readAuthMessage` + the role test + `hmac.Equal` of `authAsSender` / `authAsReceiver`
* `receiverRun` / `senderRun` - the two honest endpoints as functions of the bytes they read.
-/
namespace TV.Auth

abbrev Bytes := List UInt8
abbrev Mac := Bytes → Bytes → Bytes

def version : UInt8 := 1
def roleSender : UInt8 := 1
def roleReceiver : UInt8 := 2
def nonceSize : Nat := 16
def macSize : Nat := 32
def msgSize : Nat := 50

def deriveKey (mac : Mac) (code ekm : Bytes) : Bytes := mac code ekm

def proof (mac : Mac) (key : Bytes) (role : UInt8) (nonce : Bytes) : Bytes :=
  mac key ([version, role] ++ nonce)

def mkMsg (mac : Mac) (key : Bytes) (role : UInt8) (nonce : Bytes) : Bytes :=
  [version, role] ++ nonce ++ proof mac key role nonce

inductive Verdict
  | accept
  | shortRead      -- fewer than 50 bytes before EOF: `io.ReadFull` fails
  | badVersion
  | badRole
  | badProof
  deriving DecidableEq, Repr

/-- the checks on the 50 bytes read: `readAuthMessage`, the role test, `hmac.Equal` -/
def checkBuf (mac : Mac) (key : Bytes) (expectRole : UInt8) : Bytes → Verdict
  | v :: r :: rest =>
    if v ≠ version then .badVersion
    else if r ≠ expectRole then .badRole
    else if rest.drop nonceSize = proof mac key r (rest.take nonceSize) then .accept
    else .badProof
  | _ => .shortRead

/-- what an endpoint that expects `expectRole` decides about the bytes `wire` that arrive on the auth stream
    (`io.ReadFull` of exactly 50 bytes; anything after them is not looked at) -/
def check (mac : Mac) (key : Bytes) (expectRole : UInt8) (wire : Bytes) : Verdict :=
  if wire.length < msgSize then .shortRead else checkBuf mac key expectRole (wire.take msgSize)

/-- `authAsReceiver`: verdict on what was read; on acceptance the reply it writes (with its fresh nonce) -/
def receiverRun (mac : Mac) (key : Bytes) (incoming : Bytes) (respNonce : Bytes) : Verdict × Option Bytes :=
  match check mac key roleSender incoming with
  | .accept => (.accept, some (mkMsg mac key roleReceiver respNonce))
  | v => (v, none)

/-- `authAsSender`: the message it writes first, and its verdict on the reply -/
def senderRun (mac : Mac) (key : Bytes) (nonce : Bytes) (reply : Bytes) : Bytes × Verdict :=
  (mkMsg mac key roleSender nonce, check mac key roleReceiver reply)

/-- both honest ends on one connection: the sender's message goes to the receiver, the reply (if any) back -/
def honestPair (mac : Mac) (codeS ekmS codeR ekmR : Bytes) (nS nR : Bytes) : Verdict × Verdict :=
  let kS := deriveKey mac codeS ekmS
  let kR := deriveKey mac codeR ekmR
  let m1 := mkMsg mac kS roleSender nS
  match receiverRun mac kR m1 nR with
  | (.accept, some m2) => ((senderRun mac kS nS m2).2, .accept)
  | (v, _) => (.shortRead, v)        -- the receiver returns, its stream closes, the sender reads EOF

def hmacSha256 : Mac := TV.Sha256.hmac

end TV.Auth
