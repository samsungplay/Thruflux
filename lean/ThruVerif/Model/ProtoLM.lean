/-!
Liveness abstraction of the multi-stream transfer for a whole manifest: `k` files over `n` data streams of one
connection (`Model/ProtoL`, namespace `TV.ProtoLFix`, is the one-file instance this generalises). Payloads and chunk indices are erased to
counters.

* sender: per file `toSend` chunks still to hand out, `FileEnd` once nothing is left to hand out, `End` after every
  `FileDone` arrived; afterwards its workers close their streams (every stream becomes visible);
* network: `buf w f` frames of file `f` in flight on stream `w` (the order inside a stream is irrelevant for liveness:
  a non-empty stream always has a readable head frame);
* QUIC visibility: a stream can be accepted only after a frame was written on it or on a higher-numbered one;
* receiver: accepts visible streams one by one while it handles records and frames of streams it already accepted
  (lazy accept), finalises a file when its last frame and its `FileEnd` are in, answers `FileDone`, and returns on `End`.

Timers and polling are not steps.
-/
namespace TV.ProtoLM

def upd {α : Type} (f : Nat → α) (i : Nat) (v : α) : Nat → α := fun j => if j = i then v else f j

def sumN : Nat → (Nat → Nat) → Nat
  | 0, _ => 0
  | k + 1, f => sumN k f + f k

def b2n (b : Bool) : Nat := if b then 1 else 0

structure St where
  k : Nat
  n : Nat
  toSend : Nat → Nat
  remaining : Nat → Nat
  buf : Nat → Nat → Nat          -- stream -> file -> frames in flight
  visible : Nat
  accepted : Nat
  endSent : Nat → Bool
  endRecv : Nat → Bool
  doneSent : Nat → Bool
  doneRecv : Nat → Bool
  endAllSent : Bool
  endAllRecv : Bool

inductive Step
  | dispatch (f w : Nat)
  | sendEnd (f : Nat)
  | accept
  | readFrame (w f : Nat)
  | recvEnd (f : Nat)
  | recvDone (f : Nat)
  | sendEndAll
  | recvEndAll

/-- `finalizeFile` when the last frame and `FileEnd` are both in -/
def fin (s : St) (f : Nat) : St :=
  if s.remaining f = 0 ∧ s.endRecv f = true then { s with doneSent := upd s.doneSent f true } else s

def allB (k : Nat) (p : Nat → Bool) : Prop := ∀ f, f < k → p f = true

instance (k : Nat) (p : Nat → Bool) : Decidable (allB k p) := by
  unfold allB
  exact Nat.decidableBallLT k (fun f _ => p f = true)

def step (s : St) : Step → Option St
  | .dispatch f w =>
    if f < s.k ∧ w < s.n ∧ s.toSend f > 0 then
      some { s with toSend := upd s.toSend f (s.toSend f - 1), buf := upd s.buf w (upd (s.buf w) f (s.buf w f + 1)),
                    visible := max s.visible (w + 1) }
    else none
  | .sendEnd f =>
    if f < s.k ∧ s.toSend f = 0 ∧ s.endSent f = false then some { s with endSent := upd s.endSent f true } else none
  | .accept => if s.accepted < s.visible then some { s with accepted := s.accepted + 1 } else none
  | .readFrame w f =>
    if f < s.k ∧ w < s.accepted ∧ s.buf w f > 0 then
      some (fin { s with buf := upd s.buf w (upd (s.buf w) f (s.buf w f - 1)), remaining := upd s.remaining f (s.remaining f - 1) } f)
    else none
  | .recvEnd f =>
    if f < s.k ∧ s.endSent f = true ∧ s.endRecv f = false then some (fin { s with endRecv := upd s.endRecv f true } f) else none
  | .recvDone f =>
    if f < s.k ∧ s.doneSent f = true ∧ s.doneRecv f = false then some { s with doneRecv := upd s.doneRecv f true } else none
  | .sendEndAll =>
    if allB s.k s.doneRecv ∧ s.endAllSent = false then some { s with endAllSent := true, visible := s.n } else none
  | .recvEndAll =>
    if s.endAllSent = true ∧ s.endAllRecv = false then some { s with endAllRecv := true } else none

/-- `chunks f` chunks per file; `n` streams -/
def init (k n : Nat) (chunks : Nat → Nat) : St :=
  { k, n, toSend := chunks, remaining := chunks, buf := fun _ _ => 0, visible := 0, accepted := 0,
    endSent := fun _ => false, endRecv := fun _ => false, doneSent := fun _ => false, doneRecv := fun _ => false,
    endAllSent := false, endAllRecv := false }

def final (s : St) : Prop := s.endAllRecv = true

inductive Reachable (k n : Nat) (chunks : Nat → Nat) : St → Prop
  | init : Reachable k n chunks (init k n chunks)
  | step {s s' : St} (a : Step) : Reachable k n chunks s → step s a = some s' → Reachable k n chunks s'

/-- frames of file `f` in flight on all streams -/
def inflight (s : St) (f : Nat) : Nat := sumN s.n (fun w => s.buf w f)

/-- frames in flight on stream `w` -/
def onStream (s : St) (w : Nat) : Nat := sumN s.k (fun f => s.buf w f)

def measure (s : St) : Nat :=
  sumN s.k (fun f => 2 * s.toSend f + b2n (!s.endSent f) + b2n (!s.endRecv f) + b2n (!s.doneRecv f)) +
  sumN s.k (fun f => inflight s f) + (s.n - s.accepted) + b2n (!s.endAllSent) + b2n (!s.endAllRecv)

end TV.ProtoLM
