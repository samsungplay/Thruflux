import ThruVerif.Basic.Bytes
/-!
Byte-level path model (Unix): Go strings are byte strings, `/` = 47, `\` = 92, `.` = 46.
`clean` is the element-stack formulation of Go's `filepath.Clean` (drop empty and `.` elements; `..`
pops a non-`..` element, is dropped at the root of a rooted path, is kept otherwise); `join` is
`filepath.Join`. `validateRelPath`, `validateFilename`, `validateManifest` follow internal/transfer.
`recvEffects` lists every path `RecvManifestMultiStream` hands to MkdirAll / OpenFile / Truncate /
ReadFile / WriteFile / Rename / Remove.
-/
namespace TV.Path
open TV

def slash : UInt8 := 47
def bslash : UInt8 := 92
def dot : UInt8 := 46

/-- first element of the split on a separator predicate -/
def hd (p : UInt8 → Bool) : Bytes → Bytes
  | [] => []
  | b :: bs => if p b then [] else b :: hd p bs

/-- remaining elements of the split -/
def tl (p : UInt8 → Bool) : Bytes → List Bytes
  | [] => []
  | b :: bs => if p b then hd p bs :: tl p bs else tl p bs

/-- split on a separator predicate, keeping empty segments (`strings.Split` on one-byte separators) -/
def splitOn (p : UInt8 → Bool) (l : Bytes) : List Bytes := hd p l :: tl p l

def isSep2 (b : UInt8) : Bool := b == slash || b == bslash
def isSlash (b : UInt8) : Bool := b == slash

def dotSeg : Bytes := [dot]
def dotdot : Bytes := [dot, dot]

/-- some element (split on `/` or `\`) equals `..` -/
def hasParentSeg (p : Bytes) : Bool := (splitOn isSep2 p).any (· == dotdot)

def isAbs (p : Bytes) : Bool := match p with | b :: _ => b == slash | [] => false

inductive PathErr | tooLong | invalid deriving Repr, DecidableEq

/-- `validateRelPath` -/
def validateRelPath (maxLen : Nat) (p : Bytes) : Option PathErr :=
  if p.length > maxLen then some .tooLong
  else if hasParentSeg p then some .invalid
  else if isAbs p then some .invalid
  else if p = [] then some .invalid
  else none

/-- `validateFilename`: a single path element -/
def validateFilename (maxLen : Nat) (p : Bytes) : Option PathErr :=
  if p = [] then some .invalid
  else if p.any isSep2 then some .invalid
  else if p = dotSeg ∨ p = dotdot then some .invalid
  else if p.length > maxLen then some .tooLong
  else none

/-! ### Clean / Join on element stacks -/

def segs (p : Bytes) : List Bytes := splitOn isSlash p

/-- one step of `Clean` on the element stack -/
def push (rooted : Bool) (stk : List Bytes) (s : Bytes) : List Bytes :=
  if s = [] ∨ s = dotSeg then stk
  else if s = dotdot then
    match stk.getLast? with
    | some t => if t = dotdot then stk ++ [dotdot] else stk.dropLast
    | none => if rooted then stk else stk ++ [dotdot]
  else stk ++ [s]

def pushAll (rooted : Bool) (stk : List Bytes) (ss : List Bytes) : List Bytes := ss.foldl (push rooted) stk

def stack (p : Bytes) : List Bytes := pushAll (isAbs p) [] (segs p)

def intercalate : List Bytes → Bytes
  | [] => []
  | [s] => s
  | s :: ss => s ++ slash :: intercalate ss

def render (rooted : Bool) (stk : List Bytes) : Bytes :=
  if rooted then slash :: intercalate stk
  else if stk = [] then dotSeg else intercalate stk

/-- `filepath.Clean` -/
def clean (p : Bytes) : Bytes := render (isAbs p) (stack p)

/-- `filepath.Join(a, b)`: empty elements are ignored, the rest is joined with `/` and cleaned -/
def join (a b : Bytes) : Bytes :=
  if a = [] then (if b = [] then [] else clean b)
  else clean (a ++ slash :: b)

/-- everything up to and including the last `/` -/
def uptoLastSlash : Bytes → Bytes
  | [] => []
  | b :: bs =>
    let r := uptoLastSlash bs
    if r ≠ [] then b :: r else if b == slash then [b] else []

/-- `filepath.Dir`: Clean of the part before the last separator -/
def dirOf (p : Bytes) : Bytes :=
  let d := uptoLastSlash p
  if d = [] then dotSeg else clean d

/-- FNV-1a 64 (hash/fnv.New64a) -/
def fnv1a64 (bs : Bytes) : Nat :=
  bs.foldl (fun h b => ((h ^^^ b.toNat) * 1099511628211) % 2 ^ 64) 14695981039346656037

def hexDigit (n : Nat) : UInt8 := if n < 10 then UInt8.ofNat (48 + n) else UInt8.ofNat (87 + n)

/-- `fmt.Sprintf("%x", n)` -/
def hexOf : Nat → Nat → Bytes
  | 0, _ => []
  | fuel+1, n => if n < 16 then [hexDigit n] else hexOf fuel (n / 16) ++ [hexDigit (n % 16)]

/-- `sidecarIdentifier`: the item id, or the hex FNV-1a hash of its path -/
def sidecarIdent (id rel : Bytes) : Bytes := if id ≠ [] then id else hexOf 17 (fnv1a64 rel)

/-- `base` is lexically inside (or equal to) `dir`: element-wise prefix of the cleaned stacks -/
def Within (dir p : List Bytes) : Prop := ∃ ext, p = dir ++ ext

def NoDotDot (ss : List Bytes) : Prop := ∀ s ∈ ss, s ≠ dotdot

/-! ### manifest validation and the receiver's effect paths -/

structure Item where
  rel : Bytes
  isDir : Bool
  id : Bytes
  size : Nat
  deriving DecidableEq, Repr

structure Manifest where
  root : Bytes
  items : List Item
  deriving DecidableEq, Repr

/-- `ValidateManifest` (receiver side, before anything is created): the root has no `..` element, every
    item path is a safe relative path, every non-empty id is a single path element -/
def validateManifest (maxPath maxName : Nat) (m : Manifest) : Bool :=
  !hasParentSeg m.root &&
  m.items.all fun it =>
    (validateRelPath maxPath it.rel).isNone && (it.id = [] || (validateFilename maxName it.id).isNone)

/-- the path expression the receiver computes for an entry below its base directory:
    `filepath.Join(filepath.Join(out, root), rel)` as one concatenation (nested Join = one Clean;
    that identity is part of the filepath correspondence) -/
def under (out root rel : Bytes) : Bytes := (out ++ slash :: root) ++ slash :: rel

/-- elements a relative path contributes (`.` and empty dropped; no `..` after validation) -/
def relStack (p : Bytes) : List Bytes := pushAll true [] (segs p)

def prefixes {α : Type} : List α → List (List α)
  | [] => [[]]
  | x :: xs => [] :: (prefixes xs).map (x :: ·)

structure Begin where
  rel : Bytes
  size : Nat
  chunk : Nat
  deriving DecidableEq, Repr

/-- everything `RecvManifestMultiStream` creates below the output directory (as element stacks relative
    to it), for a manifest that passed validation; `none` = rejected before any effect.
    FileBegin records are handled in order until the first one that is refused. -/
def recvCreates (maxPath maxName : Nat) (sidecarDir suffix : Bytes) (noRoot resume : Bool)
    (m : Manifest) (begins : List Begin) : Option (List (List Bytes)) :=
  if !validateManifest maxPath maxName m then none else
  let base := if noRoot then [] else relStack m.root
  let dirs := (m.items.filter (·.isDir)).map fun it => base ++ relStack it.rel
  let rec files (bs : List Begin) (acc : List (List Bytes)) : List (List Bytes) :=
    match bs with
    | [] => acc
    | b :: rest =>
      if (validateRelPath maxPath b.rel).isSome then acc else
      -- `itemByRelPath[rel] = item` over the non-directory items in manifest order: a repeated path keeps its last entry
      match (m.items.filter (fun it => !it.isDir && it.rel == b.rel)).getLast? with
      | none => acc
      | some it =>
        if it.size ≠ b.size then acc else
        let f := base ++ relStack b.rel
        let side := if resume && b.chunk > 0 && (it.id ≠ [] || b.size > 0)
          then [base ++ [sidecarDir], base ++ [sidecarDir, sidecarIdent it.id b.rel ++ suffix]] else []
        files rest (acc ++ [f] ++ side)
  let all := [base] ++ dirs ++ files begins []
  some ((all.flatMap prefixes).eraseDups)

end TV.Path
