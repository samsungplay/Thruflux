import ThruVerif.Basic.Bytes
/-!
Control-protocol codec: a generic layout interpreter (`encL` / `decL`) and the nine control records of
`internal/transfer/controlproto.go` expressed as layouts.  The layouts are *checked against the token
lists regenerated from the source* in `Props/C18.lean` (`rfl`), so a change of field order or width in
any `write*` / `read*` body breaks an obligation there.
-/
namespace TV.Codec
open TV

/-- Field kinds that occur in the control protocol. -/
inductive Fld
  | tag (b : Nat)                      -- constant byte written by the encoder (consumed by the dispatcher on read)
  | uint (w : Nat)                     -- w-byte big-endian unsigned
  | lenBytes (w : Nat) (lim : Option Nat)  -- w-byte length prefix, optional read-side bound, then that many bytes
  | rep (w : Nat) (ws : List Nat)      -- w-byte count, then `count` groups of big-endian uints of widths `ws`
  deriving Repr, DecidableEq

inductive Val
  | unit
  | n (v : Nat)
  | bs (b : Bytes)
  | reps (g : List (List Nat))
  deriving Repr, DecidableEq

def encGroup : List Nat → List Nat → Bytes
  | w :: ws, v :: vs => putBE w v ++ encGroup ws vs
  | _, _ => []

def encGroups (ws : List Nat) : List (List Nat) → Bytes
  | [] => []
  | g :: gs => encGroup ws g ++ encGroups ws gs

def encF : Fld → Val → Bytes
  | .tag b, _ => [UInt8.ofNat b]
  | .uint w, .n v => putBE w v
  | .lenBytes w _, .bs b => putBE w b.length ++ b
  | .rep w ws, .reps gs => putBE w gs.length ++ encGroups ws gs
  | _, _ => []

def FitsGroup : List Nat → List Nat → Prop
  | [], [] => True
  | w :: ws, v :: vs => v < 256 ^ w ∧ FitsGroup ws vs
  | _, _ => False

def Fits : Fld → Val → Prop
  | .tag b, .unit => b < 256
  | .uint w, .n v => v < 256 ^ w
  | .lenBytes w lim, .bs b => b.length < 256 ^ w ∧ (∀ l, lim = some l → b.length ≤ l)
  | .rep w ws, .reps gs => gs.length < 256 ^ w ∧ ∀ g ∈ gs, FitsGroup ws g
  | _, _ => False

def decGroup : List Nat → Bytes → Except DErr (List Nat × Bytes)
  | [], bs => .ok ([], bs)
  | w :: ws, bs =>
    match getU w bs with
    | .error e => .error e
    | .ok (v, r) =>
      match decGroup ws r with
      | .error e => .error e
      | .ok (vs, r') => .ok (v :: vs, r')

def decGroups (ws : List Nat) : Nat → Bytes → Except DErr (List (List Nat) × Bytes)
  | 0, bs => .ok ([], bs)
  | k+1, bs =>
    match decGroup ws bs with
    | .error e => .error e
    | .ok (g, r) =>
      match decGroups ws k r with
      | .error e => .error e
      | .ok (gs, r') => .ok (g :: gs, r')

/-- read side of one field. `tag` fields are consumed by the dispatcher, not by the record reader. -/
def decF : Fld → Bytes → Except DErr (Val × Bytes)
  | .tag b, bs =>
    match takeN 1 bs with
    | .error e => .error e
    | .ok (h, r) => if h = [UInt8.ofNat b] then .ok (.unit, r) else .error (.badTag (beVal h 0))
  | .uint w, bs =>
    match getU w bs with
    | .error e => .error e
    | .ok (v, r) => .ok (.n v, r)
  | .lenBytes w lim, bs =>
    match getU w bs with
    | .error e => .error e
    | .ok (len, r) =>
      if (match lim with | some l => decide (len > l) | none => false) then .error .tooLong else
      match takeN len r with
      | .error e => .error e
      | .ok (b, r') => .ok (.bs b, r')
  | .rep w ws, bs =>
    match getU w bs with
    | .error e => .error e
    | .ok (cnt, r) =>
      match decGroups ws cnt r with
      | .error e => .error e
      | .ok (gs, r') => .ok (.reps gs, r')

def encL : List Fld → List Val → Bytes
  | f :: fs, v :: vs => encF f v ++ encL fs vs
  | _, _ => []

def decL : List Fld → Bytes → Except DErr (List Val × Bytes)
  | [], bs => .ok ([], bs)
  | f :: fs, bs =>
    match decF f bs with
    | .error e => .error e
    | .ok (v, r) =>
      match decL fs r with
      | .error e => .error e
      | .ok (vs, r') => .ok (v :: vs, r')

inductive FitsL : List Fld → List Val → Prop
  | nil : FitsL [] []
  | cons {f v fs vs} : Fits f v → FitsL fs vs → FitsL (f :: fs) (v :: vs)

/-! ### The control records -/

inductive Rec
  | fileBegin (relPath : Bytes) (fileSize chunkSize streamID hashAlg stripeIndex stripeCount stripeStart stripeChunks : Nat)
  | credit (streamID credits : Nat)
  | creditBatch (entries : List (Nat × Nat))
  | fileEnd (streamID crc : Nat)
  | fileDone (streamID : Nat) (ok : Bool) (err : Bytes)
  | fileResumeInfo (fileID : Bytes) (streamID total : Nat) (bitmap : Bytes) (lastChunk lastHash : Nat)
  | resumeRequest (fileID : Bytes) (streamID : Nat)
  | dataStreams (count : Nat)
  | end_
  deriving Repr, DecidableEq

inductive Kind
  | fileBegin | credit | creditBatch | fileEnd | fileDone | fileResumeInfo | resumeRequest | dataStreams | end_
  deriving Repr, DecidableEq

def Rec.kind : Rec → Kind
  | .fileBegin .. => .fileBegin | .credit .. => .credit | .creditBatch .. => .creditBatch
  | .fileEnd .. => .fileEnd | .fileDone .. => .fileDone | .fileResumeInfo .. => .fileResumeInfo
  | .resumeRequest .. => .resumeRequest | .dataStreams .. => .dataStreams | .end_ => .end_

def Kind.tag : Kind → Nat
  | .fileBegin => 0x10 | .credit => 0x11 | .fileEnd => 0x12 | .fileDone => 0x13 | .fileResumeInfo => 0x14
  | .resumeRequest => 0x15 | .creditBatch => 0x16 | .dataStreams => 0x17 | .end_ => 0xFF

def allKinds : List Kind :=
  [.fileBegin, .credit, .creditBatch, .fileEnd, .fileDone, .fileResumeInfo, .resumeRequest, .dataStreams, .end_]

/-- body layout (after the type byte) -/
def Kind.body (maxPath : Nat) : Kind → List Fld
  | .fileBegin => [.lenBytes 2 (some maxPath), .uint 8, .uint 4, .uint 8, .uint 1, .uint 2, .uint 2, .uint 4, .uint 4]
  | .credit => [.uint 8, .uint 4]
  | .creditBatch => [.rep 4 [8, 4]]
  | .fileEnd => [.uint 8, .uint 4]
  | .fileDone => [.uint 8, .uint 1, .lenBytes 2 none]
  | .fileResumeInfo => [.lenBytes 2 none, .uint 8, .uint 4, .lenBytes 4 none, .uint 4, .uint 8]
  | .resumeRequest => [.lenBytes 2 none, .uint 8]
  | .dataStreams => [.uint 2]
  | .end_ => []

def Rec.vals : Rec → List Val
  | .fileBegin p a b c d e f g h => [.bs p, .n a, .n b, .n c, .n d, .n e, .n f, .n g, .n h]
  | .credit a b => [.n a, .n b]
  | .creditBatch es => [.reps (es.map fun (a, b) => [a, b])]
  | .fileEnd a b => [.n a, .n b]
  | .fileDone a ok e => [.n a, .n (if ok then 1 else 0), .bs e]
  | .fileResumeInfo f a b bm c d => [.bs f, .n a, .n b, .bs bm, .n c, .n d]
  | .resumeRequest f a => [.bs f, .n a]
  | .dataStreams c => [.n c]
  | .end_ => []

def pairOf : List Nat → Nat × Nat
  | [a, b] => (a, b)
  | _ => (0, 0)

def Kind.ofVals : Kind → List Val → Option Rec
  | .fileBegin, [.bs p, .n a, .n b, .n c, .n d, .n e, .n f, .n g, .n h] => some (.fileBegin p a b c d e f g h)
  | .credit, [.n a, .n b] => some (.credit a b)
  | .creditBatch, [.reps gs] => some (.creditBatch (gs.map pairOf))
  | .fileEnd, [.n a, .n b] => some (.fileEnd a b)
  | .fileDone, [.n a, .n ok, .bs e] => some (.fileDone a (ok == 1) e)
  | .fileResumeInfo, [.bs f, .n a, .n b, .bs bm, .n c, .n d] => some (.fileResumeInfo f a b bm c d)
  | .resumeRequest, [.bs f, .n a] => some (.resumeRequest f a)
  | .dataStreams, [.n c] => some (.dataStreams c)
  | .end_, [] => some .end_
  | _, _ => none

def kindOfTag (t : Nat) : Option Kind := allKinds.find? (fun k => k.tag == t)

/-- `write<Record>`: type byte, then the body -/
def encode (maxPath : Nat) (r : Rec) : Bytes :=
  UInt8.ofNat r.kind.tag :: encL (r.kind.body maxPath) r.vals

/-- `readControlMessage`: read the type byte, dispatch, read the body -/
def decode (maxPath : Nat) (bs : Bytes) : Except DErr (Rec × Bytes) :=
  match takeN 1 bs with
  | .error e => .error e
  | .ok (h, r) =>
    match kindOfTag (beVal h 0) with
    | none => .error (.badTag (beVal h 0))
    | some k =>
      match decL (k.body maxPath) r with
      | .error e => .error e
      | .ok (vs, r') =>
        match k.ofVals vs with
        | some rec => .ok (rec, r')
        | none => .error (.badTag 0)   -- unreachable: `decL` returns values shaped like the layout

/-- the protocol's field limits -/
def Wf (maxPath : Nat) : Rec → Prop
  | .fileBegin p a b c d e f g h =>
      p.length ≤ maxPath ∧ p.length < 2 ^ 16 ∧ a < 2 ^ 64 ∧ b < 2 ^ 32 ∧ c < 2 ^ 64 ∧ d < 2 ^ 8 ∧ e < 2 ^ 16 ∧ f < 2 ^ 16 ∧ g < 2 ^ 32 ∧ h < 2 ^ 32
  | .credit a b => a < 2 ^ 64 ∧ b < 2 ^ 32
  | .creditBatch es => es.length < 2 ^ 32 ∧ ∀ e ∈ es, e.1 < 2 ^ 64 ∧ e.2 < 2 ^ 32
  | .fileEnd a b => a < 2 ^ 64 ∧ b < 2 ^ 32
  | .fileDone a _ e => a < 2 ^ 64 ∧ e.length < 2 ^ 16
  | .fileResumeInfo f a b bm c d => f.length < 2 ^ 16 ∧ a < 2 ^ 64 ∧ b < 2 ^ 32 ∧ bm.length < 2 ^ 32 ∧ c < 2 ^ 32 ∧ d < 2 ^ 64
  | .resumeRequest f a => f.length < 2 ^ 16 ∧ a < 2 ^ 64
  | .dataStreams c => c < 2 ^ 16
  | .end_ => True

/-! ### The control header: magic, 32-bit length, manifest JSON (opaque bytes) -/

def encodeHeader (magic json : Bytes) : Bytes := magic ++ putBE 4 json.length ++ json

def decodeHeader (magic : Bytes) (bs : Bytes) : Except DErr (Bytes × Bytes) :=
  match takeN magic.length bs with
  | .error e => .error e
  | .ok (h, r) =>
    if h ≠ magic then .error (.badTag 0) else
    match getU 4 r with
    | .error e => .error e
    | .ok (len, r1) =>
      match takeN len r1 with
      | .error e => .error e
      | .ok (j, r2) => .ok (j, r2)

/-- decode a whole stream of records until input ends -/
def decodeAll (maxPath : Nat) : Nat → Bytes → Except DErr (List Rec)
  | 0, _ => .ok []
  | fuel+1, bs =>
    if bs = [] then .ok [] else
    match decode maxPath bs with
    | .error e => .error e
    | .ok (r, rest) =>
      match decodeAll maxPath fuel rest with
      | .error e => .error e
      | .ok rs => .ok (r :: rs)

end TV.Codec
