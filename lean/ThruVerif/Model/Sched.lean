/-!
`HybridScheduler.Next` (internal/scheduler/hybrid.go) as used by `activateNext`: pending = not started;
small files go first while fewer than `smallSlots` small files are active (smallest remaining, ties by
RelPath order = list order); otherwise one of the pending medium/large files is chosen — the float
credit arithmetic is abstracted to an arbitrary choice `pick`. Aging never applies to a pending file
(its `LastScheduledAt` is zero), so time does not occur in the model.
-/
namespace TV.Sched

structure F where
  key : Nat
  remaining : Nat
  started : Bool
  deriving DecidableEq, Repr

structure Cfg where
  smallThr : Nat
  smallSlots : Nat
  deriving DecidableEq, Repr

def isSmall (cfg : Cfg) (f : F) : Bool := decide (f.remaining ≤ cfg.smallThr)

def pendingSmall (cfg : Cfg) (fs : List F) : List F := fs.filter (fun f => !f.started && isSmall cfg f)
def activeSmall (cfg : Cfg) (fs : List F) : Nat := (fs.filter (fun f => f.started && isSmall cfg f)).length
def pendingWeighted (cfg : Cfg) (fs : List F) : List F := fs.filter (fun f => !f.started && !isSmall cfg f)

/-- smallest remaining; on ties the earlier element (RelPath order) -/
def argmin : List F → Option F
  | [] => none
  | f :: fs =>
    match argmin fs with
    | none => some f
    | some g => if g.remaining < f.remaining then some g else some f

def markStarted (k : Nat) (fs : List F) : List F :=
  fs.map (fun f => if f.key = k then { f with started := true } else f)

def next (cfg : Cfg) (fs : List F) (pick : Nat) : Option (Nat × List F) :=
  let ps := pendingSmall cfg fs
  if activeSmall cfg fs < cfg.smallSlots ∧ ps ≠ [] then
    match argmin ps with
    | some f => some (f.key, markStarted f.key fs)
    | none => none
  else
    let pw := pendingWeighted cfg fs
    match pw[pick % pw.length]? with
    | some f => some (f.key, markStarted f.key fs)
    | none => none

end TV.Sched
