namespace TV.Geo

/-- Go: `uint32((fileSize + int64(chunkSize) - 1) / int64(chunkSize))`, guarded. Modelled on Nat inside the domain. -/
def chunkTotal (size chunk : Nat) : Nat :=
  if chunk = 0 then 0 else if size = 0 then 0 else (size + chunk - 1) / chunk

def lenAt (size chunk i : Nat) : Nat :=
  if chunk = 0 then 0 else
  if i * chunk ≥ size then 0 else
  if size - i * chunk < chunk then size - i * chunk else chunk

end TV.Geo
