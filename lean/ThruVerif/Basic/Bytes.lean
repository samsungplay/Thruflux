/-!
Byte strings (`List UInt8`) and big-endian fixed-width integers, with Go's `io.ReadFull` error
behaviour: reading `n > 0` bytes from ended input gives `eof` when nothing is left and `ueof`
(unexpected EOF) when only part is there; reading 0 bytes never touches the input.
-/
namespace TV

abbrev Bytes := List UInt8

inductive DErr
  | eof                 -- io.EOF: input ended exactly at this read
  | ueof                -- io.ErrUnexpectedEOF: input ended inside this read
  | badTag (b : Nat)    -- ErrInvalidRecordType / wrong magic
  | tooLong             -- ErrRelPathTooLong
  | limit               -- a peer-supplied length or count above the protocol bound
  deriving Repr, DecidableEq

def putBE : Nat → Nat → Bytes
  | 0, _ => []
  | w+1, n => UInt8.ofNat (n / 256^w) :: putBE w (n % 256^w)

def beVal : Bytes → Nat → Nat
  | [], acc => acc
  | b :: bs, acc => beVal bs (acc * 256 + b.toNat)

/-- `io.ReadFull` of `n` bytes -/
def takeN (n : Nat) (bs : Bytes) : Except DErr (Bytes × Bytes) :=
  if n = 0 then .ok ([], bs)
  else if bs.length = 0 then .error .eof
  else if bs.length < n then .error .ueof
  else .ok (bs.take n, bs.drop n)

def getU (w : Nat) (bs : Bytes) : Except DErr (Nat × Bytes) :=
  match takeN w bs with
  | .error e => .error e
  | .ok (h, r) => .ok (beVal h 0, r)

end TV
