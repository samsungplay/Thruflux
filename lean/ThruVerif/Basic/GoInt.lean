/-
Go fixed-width integer semantics made explicit over `Int`.
`wrapU n` / `wrapS n` are Go's conversions to an unsigned / signed n-bit integer (two's complement),
and every arithmetic result of a fixed-width type is passed through them by the translator.
-/
namespace TV.GoInt

/-- Go conversion to an unsigned n-bit integer -/
def wrapU (n : Nat) (x : Int) : Int := x % (2 ^ n : Int)

/-- Go conversion to a signed n-bit integer (two's complement) -/
def wrapS (n : Nat) (x : Int) : Int :=
  let m := x % (2 ^ n : Int)
  if m < (2 ^ (n - 1) : Int) then m else m - (2 ^ n : Int)

/-- Go `x << s` before wrapping to the operand type -/
def goShl (x s : Int) : Int := x * (2 ^ s.toNat : Int)
/-- Go `x >> s` on a non-negative operand -/
def goShr (x s : Int) : Int := x / (2 ^ s.toNat : Int)
/-- Go `x & y` on non-negative operands -/
def goAnd (x y : Int) : Int := ((x.toNat &&& y.toNat : Nat) : Int)
/-- Go `x | y` on non-negative operands -/
def goOr (x y : Int) : Int := ((x.toNat ||| y.toNat : Nat) : Int)

end TV.GoInt
