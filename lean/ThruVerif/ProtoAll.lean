import ThruVerif.Proto.Admission
import ThruVerif.Proto.Auth
import ThruVerif.Proto.Auth2
import ThruVerif.Proto.Disk
import ThruVerif.Proto.FileSys
import ThruVerif.Proto.Hub
import ThruVerif.Proto.Limits
import ThruVerif.Proto.ProtoL
import ThruVerif.Proto.Race
import ThruVerif.Proto.Scan
import ThruVerif.Proto.SendFile
import ThruVerif.Proto.SendOnce
/-! Root of the design-round sketches under `Proto/` (DESIGN.md 0.1, Appendix A): `lake build ThruVerif.ProtoAll`. -/
